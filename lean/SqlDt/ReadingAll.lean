/- Everything that belongs to the "denoted value" specification of the picture parser (C05) and the lossless round trip (C06):
   `lake build SqlDt.ReadingAll` checks the specification, its examples and all proofs. -/
import SqlDt.Spec.Reading
import SqlDt.Spec.Lossless
import SqlDt.Spec.ReadingExamples
import SqlDt.Lemmas.ReadingMain
import SqlDt.Lemmas.ReadingRoundTrip
import SqlDt.Lemmas.ReadingExamples
