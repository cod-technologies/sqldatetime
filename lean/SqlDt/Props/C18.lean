/-
  C18  Missing date fields default from the current local date, and only then.
  The clock is a parameter of the model; theorems quantify over all clocks.
-/
import SqlDt.Lemmas.ClockFree
import SqlDt.Model.Serde
namespace SqlDt.C18
open Gen Parser

/-- `now()` constructors and time-of-day → timestamp conversions report exactly the clock's fields. -/
theorem date_now (c : Clock) : Date.now c = Date.tryFromYmd c.year c.month c.day := rfl

theorem ts_now (c : Clock) :
    Timestamp.now c = (Date.tryFromYmd c.year c.month c.day).bind fun d =>
      (Time.tryFromHms c.hour c.minute c.second c.usec).bind fun t => .ok (Timestamp.new d t) := rfl

theorem ts_fromTime (t : Int) (c : Clock) :
    Timestamp.fromTime t c = (Date.tryFromYmd c.year c.month c.day).map fun d => Timestamp.new d t := by
  unfold Timestamp.fromTime; cases Date.tryFromYmd c.year c.month c.day <;> rfl

theorem od_now (c : Clock) :
    OracleDate.now c = (Date.tryFromYmd c.year c.month c.day).bind fun d =>
      (Time.tryFromHms c.hour c.minute c.second 0).bind fun t => .ok (OracleDate.new d t) := rfl

/-- A year field read with a width other than 1, 2, 3 (`YYYY`; every interval year field is read with width 9) never
    consults the clock: the result is the same under any two clocks, and its last component, `clockWasRead`, is `false`. -/
theorem parseYear4_clock_free (input : Bytes) (c1 c2 : Clock) (n : Nat) (hn : n ≠ 1 ∧ n ≠ 2 ∧ n ≠ 3) :
    parseYear input n c1 = parseYear input n c2 ∧
    ∀ r, parseYear input n c1 = .ok r → r.2.2.2 = false := by
  refine ⟨Lemmas.parseYear_clockFree input n c1 c2 (by omega), fun r hr => ?_⟩
  rw [Lemmas.parseYear_plain input n c1 (by omega)] at hr
  obtain ⟨a, _, rfl⟩ := Chk.map_eq_ok.1 hr
  rfl

/-- One- and three-digit year fields are completed with the leading digits of the clock's year:
    `year − year mod 10ⁿ + digits` (two digits: `parseYear2`). -/
theorem parseYear_completion (input : Bytes) (c : Clock) (n : Nat) (hn : n = 1 ∨ n = 3) (neg : Bool) (v : Int) (rem : Bytes)
    (hp : parseNumber input n = .ok (neg, v, rem)) :
    parseYear input n c = .ok (neg, c.year - rrem c.year (if n = 1 then 10 else 1000) + v, rem, true) := by
  unfold parseYear
  have h2 : ¬ n = 2 := by omega
  simp only [h2, hn, ↓reduceIte, hp, bind, Except.bind, pure, Except.pure]
  rcases hn with rfl | rfl <;> simp [idx, YEAR_MODIFIER]

/-- Two-digit field: at most two digits are completed with the current century, three or four digits are a
    literal year (a leading sign is not a digit). -/
theorem parseYear2 (input : Bytes) (c : Clock) (neg : Bool) (v : Int) (rem : Bytes)
    (hp : parseNumber input 4 = .ok (neg, v, rem)) :
    parseYear input 2 c =
      let signLen := match input with
        | ch :: _ => if ch = B '+' ∨ ch = B '-' then 1 else 0
        | [] => 0
      if input.length - rem.length - signLen > 2 then .ok (neg, v, rem, false)
      else .ok (neg, c.year - rrem c.year 100 + v, rem, true) := by
  unfold parseYear
  simp only [↓reduceIte, hp, bind, Except.bind, pure, Except.pure]
  split <;> rfl

/-- For all clocks, texts and pictures: when the picture has no short year field (Y, YY, YYY)
    and – for types with a date – contains a year token and a month token (number or name), the result of parsing
    (value or error, and the clock-read count) is the same under any two clocks. In particular a text that supplies
    a full year, month and day is parsed without regard to the current date. -/
theorem parse_clock_independent (ty : Ty) (fields : List Field) (input : Bytes) (c1 c2 : Clock)
    (hfree : ∀ f ∈ fields, Lemmas.Field.clockFree f = true ∨ ty.info.IS_INTERVAL_YM = true)
    (hdate : ty.info.HAS_DATE = true →
      (∃ n, Field.Year n ∈ fields) ∧ (Field.Month ∈ fields ∨ ∃ s, Field.MonthName s ∈ fields)) :
    Parser.parse ty fields input c1 = Parser.parse ty fields input c2 :=
  Lemmas.parse_clock_independent ty fields input c1 c2 hfree hdate

/-- The same at the level of `T::parse(text, picture)`. -/
theorem parseValue_clock_independent (ty : Ty) (pic text : Bytes) (c1 c2 : Clock)
    (h : ∀ fields, Lexer.tryNew pic = .ok fields →
      (∀ f ∈ fields, Lemmas.Field.clockFree f = true ∨ ty.info.IS_INTERVAL_YM = true) ∧
      (ty.info.HAS_DATE = true →
        (∃ n, Field.Year n ∈ fields) ∧ (Field.Month ∈ fields ∨ ∃ s, Field.MonthName s ∈ fields))) :
    parseValue ty text pic c1 = parseValue ty text pic c2 := by
  unfold parseValue
  cases ht : Lexer.tryNew pic with
  | error e => rfl
  | ok fields =>
    simp only [bind, Except.bind]
    exact Lemmas.parse_clock_independent ty fields text c1 c2 (h fields ht).1 (h fields ht).2

/-- Without a short year field the field loop itself never looks at the clock (whatever else is missing). -/
theorem fields_clock_independent (ty : Ty) (c1 c2 : Clock) (fields : List Field) (st : St)
    (hfree : ∀ f ∈ fields, Lemmas.Field.clockFree f = true ∨ ty.info.IS_INTERVAL_YM = true) :
    Parser.parseFields ty c1 st fields = Parser.parseFields ty c2 st fields :=
  Lemmas.parseFields_clockFree ty c1 c2 fields st hfree

/-- Non-vacuity: the hypotheses hold for e.g. `YYYY-MM-DD HH24:MI:SS` on timestamps. -/
example : ∃ fields, Lexer.tryNew (bytesOf "YYYY-MM-DD HH24:MI:SS") = .ok fields ∧
    (∀ f ∈ fields, Lemmas.Field.clockFree f = true) ∧ Field.Year 4 ∈ fields ∧ Field.Month ∈ fields :=
  ⟨[.Year 4, .Hyphen, .Month, .Hyphen, .Day, .Blank 1, .Hour24, .Colon, .Minute, .Colon, .Second],
    by decide +kernel, by decide +kernel, by decide +kernel, by decide +kernel⟩

/-- Omitted day is 1, omitted time fields are zero; month 0 stands for "not given" (see `applyDefaults`). -/
theorem ndt_defaults : ({} : NDT).day = 1 ∧ ({} : NDT).hour = 0 ∧ ({} : NDT).minute = 0 ∧ ({} : NDT).sec = 0 ∧
    ({} : NDT).usec = 0 ∧ ({} : NDT).month = 0 := by decide

example : parseValue .D (bytesOf "05-17") (bytesOf "MM-DD") { year := 2024, month := 3, day := 15, hour := 0, minute := 0, second := 0, usec := 0 }
      = .ok (19860, 1) ∧
    parseValue .D (bytesOf "21-03-04") (bytesOf "YY-MM-DD") { year := 1987, month := 3, day := 15, hour := 0, minute := 0, second := 0, usec := 0 }
      = .ok (-17835, 1) := by decide +kernel

end SqlDt.C18
