/-
  C15  Serialization round-trips and deserialization never yields an out-of-range value.
-/
import SqlDt.Lemmas.RoundTrip
import SqlDt.Lemmas.ParseValid
namespace SqlDt.C15

/-- Binary deserialisation is the type's range check on the raw count. -/
theorem deBin_eq (ty : Ty) (raw : Int) : Serde.deBin ty raw = if ty.Valid raw then .ok raw else .error .Serde := by
  by_cases hv : ty.Valid raw <;> cases ty <;> simp only [Ty.Valid] at hv <;>
    simp only [Serde.deBin, Date.tryFromDays, Time.tryFromUsecs, Timestamp.tryFromUsecs, IntervalYM.tryFromMonths,
      IntervalDT.tryFromUsecs, OracleDate.tryFromUsecs, Ty.Valid, hv, ↓reduceIte]

/-- Binary deserialisation of ANY raw integer either fails or yields a value inside the type's range
    (whole seconds for the Oracle-style date). -/
theorem deBin_valid (ty : Ty) (raw v : Int) (h : Serde.deBin ty raw = .ok v) : ty.Valid v ∧ v = raw := by
  obtain ⟨hv, rfl⟩ := Chk.gate_eq_ok.1 (deBin_eq ty raw ▸ h)
  exact ⟨hv, rfl⟩

theorem deBin_serBin (ty : Ty) (v : Int) (hv : ty.Valid v) : Serde.deBin ty (Serde.serBin ty v) = .ok v :=
  (deBin_eq ty v).trans (if_pos hv)

/-- Out-of-range raw counts are rejected: `i32::MAX` days, a time of day of `i64::MAX` µs, an Oracle-style date of 1 µs. -/
example : Serde.deBin .D 2147483647 = .error .Serde ∧ Serde.deBin .T 9223372036854775807 = .error .Serde ∧
    Serde.deBin .OD 1 = .error .Serde ∧ Serde.deBin .D 2932896 = .ok 2932896 := by decide

/-- Human-readable serialisation of EVERY valid value of EVERY type succeeds and fits the 32-byte stack buffer
    (`StackStr<32>`): the `Err(ser::Error)` / overflow branch of `serialize` is unreachable for valid values. -/
theorem serStr_ok (ty : Ty) (v : Int) (hv : ty.Valid v) : ∃ text, Serde.serStr ty v = .ok text ∧ text.length ≤ 32 :=
  Lemmas.serStr_ok ty v hv

/-- Human-readable round trip: for EVERY valid value of EVERY type, and under any clock, deserialising the
    serialised text gives the value back. -/
theorem deStr_serStr (ty : Ty) (v : Int) (hv : ty.Valid v) (now : Clock) (text : Bytes)
    (h : Serde.serStr ty v = .ok text) : Serde.deStr ty text now = .ok v :=
  Lemmas.deStr_serStr ty v hv now text h

/-- The two together, without the intermediate text as a hypothesis. -/
theorem human_roundtrip (ty : Ty) (v : Int) (hv : ty.Valid v) (now : Clock) :
    (Serde.serStr ty v).bind (fun t => Serde.deStr ty t now) = .ok v := by
  obtain ⟨t, a, _⟩ := serStr_ok ty v hv
  rw [a]; exact deStr_serStr ty v hv now t a

/-- Human-readable deserialisation of ANY text, under any clock, either fails or yields a value inside the type's
    documented range (whole seconds for the Oracle-style date). -/
theorem deStr_valid (ty : Ty) (text : Bytes) (now : Clock) (v : Int) (h : Serde.deStr ty text now = .ok v) : ty.Valid v :=
  Lemmas.deStr_valid ty text now v h

/-- The greatest timestamp goes through the human-readable form; the year 0 and a second of 60 are rejected. -/
example : Serde.serStr .TS 253402300799999999 = .ok (bytesOf "9999-12-31 23:59:59.999999") ∧
    Serde.deStr .TS (bytesOf "9999-12-31 23:59:59.999999") default = .ok 253402300799999999 ∧
    Serde.deStr .D (bytesOf "0000-01-01") default = .error .Serde ∧
    Serde.deStr .OD (bytesOf "9999-12-31 23:59:60") default = .error .Serde := by decide +kernel

end SqlDt.C15
