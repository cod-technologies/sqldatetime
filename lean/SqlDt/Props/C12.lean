/-
  C12  Time-of-day arithmetic wraps modulo 24 hours.
-/
import SqlDt.Lemmas.Div
namespace SqlDt.C12
open Gen

/-- `t + i` reduced modulo one day (Euclidean remainder, so the result lies in 0 ≤ · < 24 h), for every valid
    time of day and **every** integer interval (no range restriction on `i` is needed). -/
theorem addIntervalDt_eq_emod (t i : Int) (ht : isValidTime t) :
    Time.addIntervalDt t i = (t + i) % 86400000000 := by
  rw [isValidTime_iff] at ht
  simp only [Time.addIntervalDt, USECONDS_PER_DAY, rrem]
  omega

theorem addIntervalDt_valid (t i : Int) (ht : isValidTime t) : isValidTime (Time.addIntervalDt t i) := by
  rw [addIntervalDt_eq_emod t i ht, isValidTime_iff]; omega

/-- Subtracting is adding the negation, hence `(t - i) mod 24 h`. -/
theorem subIntervalDt_eq_emod (t i : Int) (ht : isValidTime t) :
    Time.subIntervalDt t i = (t - i) % 86400000000 := by
  unfold Time.subIntervalDt; rw [addIntervalDt_eq_emod t (-i) ht]; congr 1

theorem add_sub_cancel (t i : Int) (ht : isValidTime t) :
    Time.subIntervalDt (Time.addIntervalDt t i) i = t := by
  rw [subIntervalDt_eq_emod _ _ (addIntervalDt_valid t i ht), addIntervalDt_eq_emod t i ht]
  rw [isValidTime_iff] at ht; omega

theorem add_whole_days (t k : Int) (ht : isValidTime t) : Time.addIntervalDt t (k * 86400000000) = t := by
  rw [addIntervalDt_eq_emod _ _ ht]; rw [isValidTime_iff] at ht; omega

/-- The difference of two times of day is their exact signed microsecond difference. -/
theorem subTime_exact (a b : Int) : Time.subTime a b = a - b := rfl

theorem subTime_valid (a b : Int) (ha : isValidTime a) (hb : isValidTime b) :
    IntervalDT.isValidUsecs (Time.subTime a b) := by
  rw [isValidTime_iff] at ha hb
  rw [IntervalDT.isValidUsecs_iff, subTime_exact]; omega

/-- Converting an interval to a time of day keeps its magnitude modulo one day. -/
theorem fromIntervalDt_eq (i : Int) : Time.fromIntervalDt i = i.natAbs % 86400000000 := by
  simp only [Time.fromIntervalDt, USECONDS_PER_DAY, rrem]
  omega

theorem fromIntervalDt_valid (i : Int) : isValidTime (Time.fromIntervalDt i) := by
  rw [fromIntervalDt_eq, isValidTime_iff]; omega

example : isValidTime 0 ∧ isValidTime 86399999999 ∧ Time.addIntervalDt 0 (-1) = 86399999999 := by decide

end SqlDt.C12
