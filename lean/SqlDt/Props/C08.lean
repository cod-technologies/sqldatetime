/-
  C08  Day and microsecond arithmetic is exact, invertible and exactly range-checked.
  Every theorem quantifies over all valid receivers and ALL representable operands (whole i32 / i64); the checked
  additions are the gate on the exact result for all integers whatever (Lemmas/Div).
-/
import SqlDt.Lemmas.Div
import SqlDt.Lemmas.FloatOps
namespace SqlDt.C08
open SqlDt Gen

/-- Exact-result characterisation of a checked linear operation: `ok` with the exact integer iff it is in range. -/
def exactOr (inRange : Int → Prop) [DecidablePred inRange] (e : Err) (x : Int) : Chk Int :=
  if inRange x then .ok x else .error e

theorem Date.addDays_exact (d k : Int) :
    Date.addDays d k = exactOr isValidDate .DateOutOfRange (d + k) :=
  SqlDt.Date.addDays_eq d k

theorem Date.subDays_exact (d k : Int) :
    Date.subDays d k = exactOr isValidDate .DateOutOfRange (d - k) :=
  SqlDt.Date.subDays_eq d k

/-- The difference of two dates is exact and needs no range gate (fits i32). -/
theorem Date.subDate_exact (a b : Int) (ha : isValidDate a) (hb : isValidDate b) :
    Date.subDate a b = a - b ∧ fitsI32 (a - b) := by
  rw [isValidDate_iff] at ha hb; unfold Date.subDate fitsI32 I32_MIN I32_MAX; omega

theorem Timestamp.addIntervalDt_exact (ts i : Int) :
    Timestamp.addIntervalDt ts i = exactOr isValidTimestamp .DateOutOfRange (ts + i) :=
  SqlDt.Timestamp.addIntervalDt_eq ts i

theorem Timestamp.subIntervalDt_exact (ts i : Int) :
    Timestamp.subIntervalDt ts i = exactOr isValidTimestamp .DateOutOfRange (ts - i) := by
  unfold Timestamp.subIntervalDt IntervalDT.negate
  rw [Timestamp.addIntervalDt_exact]; congr 1

theorem Timestamp.addTime_exact (ts t : Int) :
    Timestamp.addTime ts t = exactOr isValidTimestamp .DateOutOfRange (ts + t) := by
  unfold Timestamp.addTime Timestamp.tryFromUsecs exactOr; rfl

theorem Timestamp.subTime_exact (ts t : Int) :
    Timestamp.subTime ts t = exactOr isValidTimestamp .DateOutOfRange (ts - t) := by
  unfold Timestamp.subTime Timestamp.tryFromUsecs exactOr; rfl

/-- `add_time`/`sub_time` use an unchecked `+`/`-`: it cannot overflow i64 for valid operands. -/
theorem Timestamp.addTime_no_overflow (ts t : Int) (hts : isValidTimestamp ts) (ht : isValidTime t) :
    fitsI64 (ts + t) ∧ fitsI64 (ts - t) := by
  rw [isValidTimestamp_iff] at hts; rw [isValidTime_iff] at ht
  unfold fitsI64 I64_MIN I64_MAX; omega

/-- Differences of timestamps are exact, fit i64 and are valid day-time intervals (no gate needed). -/
theorem Timestamp.subTimestamp_exact (a b : Int) (ha : isValidTimestamp a) (hb : isValidTimestamp b) :
    Timestamp.subTimestamp a b = a - b ∧ IntervalDT.isValidUsecs (a - b) := by
  rw [isValidTimestamp_iff] at ha hb
  unfold Timestamp.subTimestamp IntervalDT.isValidUsecs INTERVAL_MAX_USECONDS; omega

theorem Timestamp.subDate_exact (ts d : Int) (hts : isValidTimestamp ts) (hd : isValidDate d) :
    Timestamp.subDate ts d = ts - d * 86400000000 ∧ IntervalDT.isValidUsecs (Timestamp.subDate ts d) := by
  rw [isValidTimestamp_iff] at hts; rw [isValidDate_iff] at hd
  unfold Timestamp.subDate Timestamp.subTimestamp Timestamp.new IntervalDT.isValidUsecs INTERVAL_MAX_USECONDS
    USECONDS_PER_DAY; omega

theorem IntervalYM.add_exact (a b : Int) :
    IntervalYM.addIntervalYm a b = exactOr IntervalYM.isValidMonths .IntervalOutOfRange (a + b) :=
  SqlDt.IntervalYM.addIntervalYm_eq a b

theorem IntervalYM.sub_exact (a b : Int) (ha : IntervalYM.isValidMonths a) (hb : IntervalYM.isValidMonths b) :
    IntervalYM.subIntervalYm a b = exactOr IntervalYM.isValidMonths .IntervalOutOfRange (a - b) := by
  unfold IntervalYM.subIntervalYm IntervalYM.negate
  rw [IntervalYM.add_exact]; congr 1

theorem IntervalDT.add_exact (a b : Int) :
    IntervalDT.addIntervalDt a b = exactOr IntervalDT.isValidUsecs .IntervalOutOfRange (a + b) :=
  SqlDt.IntervalDT.addIntervalDt_eq a b

theorem IntervalDT.sub_exact (a b : Int) (ha : IntervalDT.isValidUsecs a) (hb : IntervalDT.isValidUsecs b) :
    IntervalDT.subIntervalDt a b = exactOr IntervalDT.isValidUsecs .IntervalOutOfRange (a - b) := by
  unfold IntervalDT.subIntervalDt IntervalDT.negate
  rw [IntervalDT.add_exact]; congr 1

theorem IntervalDT.subTime_exact (v t : Int) :
    IntervalDT.subTime v t = exactOr IntervalDT.isValidUsecs .IntervalOutOfRange (v - t) := by
  unfold IntervalDT.subTime IntervalDT.tryFromUsecs exactOr; rfl

/-- x + i − i = x whenever the intermediate exists. -/
theorem Date.add_sub_cancel (d k r : Int) (hd : isValidDate d) (hk : fitsI32 k)
    (h : Date.addDays d k = .ok r) : Date.subDays r k = .ok d := by
  obtain ⟨_, rfl⟩ := Chk.gate_eq_ok.1 (SqlDt.Date.addDays_eq d k ▸ h)
  rw [SqlDt.Date.subDays_eq, show d + k - k = d by omega]
  exact if_pos hd

/-- (x + i) − x = i. -/
theorem Date.add_then_diff (d k r : Int) (hd : isValidDate d) (hk : fitsI32 k)
    (h : Date.addDays d k = .ok r) : Date.subDate r d = k := by
  obtain ⟨_, rfl⟩ := Chk.gate_eq_ok.1 (SqlDt.Date.addDays_eq d k ▸ h)
  unfold Date.subDate; omega

/-- a − b = −(b − a). -/
theorem Date.subDate_antisymm (a b : Int) : Date.subDate a b = -(Date.subDate b a) := by
  unfold Date.subDate; omega

theorem Timestamp.subTimestamp_antisymm (a b : Int) :
    Timestamp.subTimestamp a b = IntervalDT.negate (Timestamp.subTimestamp b a) := by
  unfold Timestamp.subTimestamp IntervalDT.negate; omega

theorem Timestamp.add_sub_cancel (ts i r : Int) (hts : isValidTimestamp ts) (hi : IntervalDT.isValidUsecs i)
    (h : Timestamp.addIntervalDt ts i = .ok r) : Timestamp.subIntervalDt r i = .ok ts := by
  obtain ⟨_, rfl⟩ := Chk.gate_eq_ok.1 (SqlDt.Timestamp.addIntervalDt_eq ts i ▸ h)
  rw [Timestamp.subIntervalDt_exact, show ts + i - i = ts by omega]
  exact if_pos hts

/-! ### Fractional-day offsets (f64) -/

/-- Whole days: `add_days(k as f64)` adds exactly `k` days with the exact range gate, for every |k| ≤ 100000. -/
theorem Timestamp.addDays_whole (ts k : Int) (hk : k.natAbs ≤ 100000) :
    Timestamp.addDays ts (F64.ofInt k) =
      (match checkedI64 (ts + k * 86400000000) with
       | some r => Timestamp.tryFromUsecs r
       | none => .error .DateOutOfRange) := by
  apply Lemmas.Timestamp.addDays_exact
  · omega
  · by_cases h0 : k = 0
    · subst h0; decide +kernel
    · exact Lemmas.F64.mul_ofInt_exact k 86400000000 (by omega) (by decide) (by omega)

/-- Any offset whose microsecond count `n` is exactly representable by the product `x · 86400·10^6` (halves, quarters, …
    of a day; any whole number of microseconds below 2^53 that the product hits exactly) is added exactly.  Every other
    finite offset: `C08.ts_addDays_accuracy` (Props/C08Accuracy). -/
theorem Timestamp.addDays_exact (ts n : Int) (x : F64) (hn : n.natAbs ≤ 9007199254740992)
    (hx : F64.mul x (F64.ofInt 86400000000) = F64.ofInt n) :
    Timestamp.addDays ts x =
      (match checkedI64 (ts + n) with
       | some r => Timestamp.tryFromUsecs r
       | none => .error .DateOutOfRange) :=
  Lemmas.Timestamp.addDays_exact ts n x hn hx

example : isValidDate 0 ∧ fitsI32 5 ∧ Date.addDays 0 5 = .ok 5 ∧ Date.addDays 2932896 1 = .error .DateOutOfRange ∧
    Date.addDays 0 2147483647 = .error .DateOutOfRange := by decide

end SqlDt.C08
