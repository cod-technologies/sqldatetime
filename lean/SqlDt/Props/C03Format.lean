/-
  C03 (continuation): FORMATTING never panics – one statement for every valid value of every type and every picture.
  Every valid value has components its `NaiveDateTime` agrees with (`Lemmas.renders_exists`), and for such a value
  `format` is the specified rendering or a format error (`format_np_of_renders`, Props/C03.lean).  Apart from
  Props/C03.lean because `serStr_no_panic` needs Lemmas/RoundTrip (`serStr_ok`).
-/
import SqlDt.Props.C03
import SqlDt.Lemmas.RoundTrip
namespace SqlDt.C03

/-- For EVERY valid value of EVERY type and EVERY byte string used as picture, `format` (into a `String`) returns the
    text or an error – never a panic: no table index, digit buffer, `unreachable!` arm or arithmetic step can fail. -/
theorem format_no_panic (ty : Ty) (v : Int) (hv : ty.Valid v) (pic : Bytes) :
    formatValue ty v pic none ≠ .error .Panic := by
  obtain ⟨c, hc⟩ := Lemmas.renders_exists ty v hv
  exact format_np_of_renders hc pic none

/-- The same into the 32-byte serde buffer, for the six fixed pictures. -/
theorem serStr_no_panic (ty : Ty) (v : Int) (hv : ty.Valid v) : Serde.serStr ty v ≠ .error .Panic := by
  obtain ⟨t, a, _⟩ := Lemmas.serStr_ok ty v hv
  rw [a]; simp

end SqlDt.C03
