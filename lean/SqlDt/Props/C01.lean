/-
  C01  Day numbers and (year, month, day) form the proleptic Gregorian bijection.
  The round trip and the successor rule rest on the calendar theory of Lemmas/Calendar.
-/
import SqlDt.Lemmas.Div
import SqlDt.Lemmas.Calendar
namespace SqlDt.C01
open SqlDt Gen Spec

/-- A raw day number is accepted exactly when it lies in 0001-01-01..9999-12-31 (for every i32). -/
theorem tryFromDays_spec (k : Int) :
    Date.tryFromDays k = if -719162 ≤ k ∧ k ≤ 2932896 then .ok k else .error .DateOutOfRange := by
  simp only [Date.tryFromDays, isValidDate_iff]

/-- The weekday of day number `d` is `(d + 4) mod 7` counted from Sunday = 1: for every integer `d`. -/
theorem dayOfWeek_eq (d : Int) : Date.dayOfWeek d = (d + 4) % 7 + 1 := by
  simp only [Date.dayOfWeek, UNIX_EPOCH_DOW, rrem]
  omega

/-- 1970-01-01 (day number 0) is a Thursday (Sunday = 1 … Thursday = 5). -/
theorem dayOfWeek_epoch : Date.dayOfWeek 0 = 5 := by decide

/-- The weekday advances by one each day, wrapping Saturday → Sunday. -/
theorem dayOfWeek_succ (d : Int) :
    Date.dayOfWeek (d + 1) = if Date.dayOfWeek d = 7 then 1 else Date.dayOfWeek d + 1 := by
  rw [dayOfWeek_eq, dayOfWeek_eq]
  by_cases h : (d + 4) % 7 + 1 = 7
  · rw [if_pos h]; omega
  · rw [if_neg h]; omega

theorem dayOfWeek_range (d : Int) : 1 ≤ Date.dayOfWeek d ∧ Date.dayOfWeek d ≤ 7 := by
  rw [dayOfWeek_eq]; omega

/-- The field checks of `try_from_ymd`, in the order year / month / day 1..31 / day ≤ days-in-month, for ALL
    i32 years and u32 months and days (no hypothesis on the arguments at all). -/
theorem tryFromYmd_classify (y m d : Int) :
    Date.tryFromYmd y m d =
      if y < 1 ∨ y > 9999 then .error .DateOutOfRange
      else if m < 1 ∨ m > 12 then .error .InvalidMonth
      else if d < 1 ∨ d > 31 then .error .InvalidDay
      else if d > daysOfMonth y m then .error .InvalidDate
      else .ok (date2julian y m d - 2440588) := by
  unfold Date.tryFromYmd Date.fromYmdUnchecked DATE_MIN_YEAR DATE_MAX_YEAR MONTHS_PER_YEAR
  rw [UNIX_EPOCH_JULIAN_eq]

theorem isValid_iff_tryFromYmd_ok (y m d : Int) :
    Date.isValid y m d = true ↔ ∃ v, Date.tryFromYmd y m d = .ok v := by
  unfold Date.isValid Date.tryFromYmd
  by_cases h1 : y < DATE_MIN_YEAR ∨ y > DATE_MAX_YEAR
  · simp [h1]
  · by_cases h2 : m < 1 ∨ m > MONTHS_PER_YEAR
    · simp [h1, h2]
    · by_cases h3 : d < 1 ∨ d > 31
      · simp [h1, h2, h3]
      · by_cases h4 : d > daysOfMonth y m
        · simp [h1, h2, h3, h4]
        · simp [h1, h2, h3, h4]

/-- Month lengths are the Gregorian ones: 31/30 by month, February 28 or 29 by `is_leap_year`. -/
theorem daysOfMonth_spec (y m : Int) (hm : 1 ≤ m ∧ m ≤ 12) :
    daysOfMonth y m =
      if m = 2 then (if isLeapYear y then 29 else 28)
      else if m = 4 ∨ m = 6 ∨ m = 9 ∨ m = 11 then 30 else 31 :=
  Lemmas.daysOfMonth_table y m hm

/-- Leap years: every 4 years except century years not divisible by 400 (true of every year: `hy` is not used). -/
theorem isLeapYear_spec (y : Int) (hy : 0 ≤ y) :
    isLeapYear y = true ↔ (y % 4 = 0 ∧ (y % 100 ≠ 0 ∨ y % 400 = 0)) :=
  Lemmas.isLeapYear_eq y ▸ Lemmas.Cal.isLeap_iff y

/-- Once month and day are in 1..12 and 1..31, what is left of the field checks is the year range and the length
    of the month, and the result is the calendar's day number. -/
theorem tryFromYmd_of_fields (y m d : Int) (hm : 1 ≤ m ∧ m ≤ 12) (hd : 1 ≤ d ∧ d ≤ 31) :
    Date.tryFromYmd y m d =
      if y < 1 ∨ y > 9999 then .error .DateOutOfRange
      else if d > dim y m then .error .InvalidDate
      else .ok (dayNumber y m d) := by
  rw [tryFromYmd_classify]
  split
  · rfl
  · rw [if_neg (by omega), if_neg (by omega), Lemmas.daysOfMonth_eq _ _ hm, ← UNIX_EPOCH_JULIAN_eq]
    exact congrArg _ (congrArg _ (Lemmas.fromYmd_eq_dayNumber y m d (by omega) hm))

theorem tryFromYmd_valid (y m d : Int) (h : ValidYMD y m d) : Date.tryFromYmd y m d = .ok (dayNumber y m d) := by
  obtain ⟨y1, y9, m1, m12, d1, dd⟩ := h
  have := Lemmas.Cal.dim_range y m
  rw [tryFromYmd_of_fields y m d ⟨m1, m12⟩ ⟨d1, by omega⟩, if_neg (by omega), if_neg (by omega)]

/-- ROUND TRIP 1: every in-range day number extracts to a real calendar date of years 1..9999 and converts back to
    the same number. -/
theorem extract_roundtrip (j : Int) (hj : isValidDate j) :
    ValidYMD (Date.extract j).1 (Date.extract j).2.1 (Date.extract j).2.2 ∧
    Date.tryFromYmd (Date.extract j).1 (Date.extract j).2.1 (Date.extract j).2.2 = .ok j := by
  obtain ⟨y, m, d, hd, rfl⟩ := Lemmas.exists_date j
  have hv := Lemmas.Cal.validYMD_of_range y m d hd ((isValidDate_iff _).1 hj)
  rw [Lemmas.extract_dayNumber y m d hd]
  exact ⟨hv, tryFromYmd_valid y m d hv⟩

/-- ROUND TRIP 2: every real date of years 1..9999 is accepted, its day number is in range and extracts back to it;
    and the day number is the calendar's ordinal `dayNumber`. -/
theorem tryFromYmd_roundtrip (y m d : Int) (h : ValidYMD y m d) :
    Date.tryFromYmd y m d = .ok (dayNumber y m d) ∧ isValidDate (dayNumber y m d) ∧
    Date.extract (dayNumber y m d) = (y, m, d) :=
  ⟨tryFromYmd_valid y m d h, (isValidDate_iff _).2 (Lemmas.dayNumber_range y m d h),
    Lemmas.extract_dayNumber y m d h.2.2⟩

/-- A triple of ANY integers is accepted EXACTLY when it names a real date of years 1..9999, and the value is its
    day number. -/
theorem tryFromYmd_eq_ok (y m d v : Int) : Date.tryFromYmd y m d = .ok v ↔ ValidYMD y m d ∧ dayNumber y m d = v := by
  constructor
  · intro h
    have hc := h
    simp only [tryFromYmd_classify, Chk.ite_error_eq_ok] at hc
    obtain ⟨c1, c2, c3, c4, -⟩ := hc
    rw [Lemmas.daysOfMonth_eq _ _ (by omega)] at c4
    have hv : ValidYMD y m d := ⟨by omega, by omega, by omega, by omega, by omega, by omega⟩
    exact ⟨hv, Except.ok.inj ((tryFromYmd_valid y m d hv).symm.trans h)⟩
  · rintro ⟨hv, rfl⟩; exact tryFromYmd_valid y m d hv

theorem tryFromYmd_ok_iff (y m d : Int) : (∃ v, Date.tryFromYmd y m d = .ok v) ↔ ValidYMD y m d :=
  ⟨fun ⟨v, h⟩ => ((tryFromYmd_eq_ok y m d v).1 h).1, fun h => ⟨_, tryFromYmd_valid y m d h⟩⟩

theorem tryFromYmd_ok_valid (y m d v : Int) (h : Date.tryFromYmd y m d = .ok v) : isValidDate v := by
  obtain ⟨hv, rfl⟩ := (tryFromYmd_eq_ok y m d v).1 h
  exact (isValidDate_iff _).2 (Lemmas.dayNumber_range y m d hv)

/-- Consecutive day numbers are consecutive Gregorian dates: the calendar is *defined* by `Spec.nextDay`
    (day + 1 within the month, else first of the next month, else 1 January of the next year; month lengths 28/29/30/31
    with leap years every 4 years except century years not divisible by 400). -/
theorem extract_succ (j : Int) (hj : isValidDate j) (hj1 : isValidDate (j + 1)) :
    Date.extract (j + 1) = nextDay (Date.extract j) := Lemmas.extract_succ j hj hj1

theorem extract_min : Date.extract (-719162) = (1, 1, 1) := by decide
theorem extract_max : Date.extract 2932896 = (9999, 12, 31) := by decide

/-- Accepted dates order the same way as their (year, month, day) triples. -/
theorem order_iff_lex (y m d y' m' d' : Int) (h : ValidYMD y m d) (h' : ValidYMD y' m' d') :
    dayNumber y m d < dayNumber y' m' d' ↔ lexLt (y, m, d) (y', m', d') :=
  Lemmas.Cal.dn_lt_iff h.2.2 h'.2.2

example : Date.tryFromYmd 2021 2 29 = .error .InvalidDate ∧ Date.tryFromYmd 2020 2 29 = .ok 18321 ∧
    Date.tryFromYmd 0 1 1 = .error .DateOutOfRange ∧ Date.tryFromYmd 1 13 1 = .error .InvalidMonth ∧
    Date.tryFromYmd 1 1 32 = .error .InvalidDay ∧ Date.extract 18321 = (2020, 2, 29) := by decide

end SqlDt.C01
