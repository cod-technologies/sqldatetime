/-
  C16  The Oracle-style date always holds whole seconds, flooring sub-second input.
-/
import SqlDt.Lemmas.Div
import SqlDt.Lemmas.FloatOps
namespace SqlDt.C16
open Gen

theorem isValidDate_iff (u : Int) :
    OracleDate.isValidDate u ↔ (-62135596800000000 ≤ u ∧ u ≤ 253402300799999999 ∧ u % 1000000 = 0) := by
  unfold OracleDate.isValidDate USECONDS_PER_SECOND
  rw [isValidTimestamp_iff]
  by_cases h : 0 ≤ u
  · rw [rrem_nonneg_eq h]; omega
  · rw [rrem_neg_eq (by omega)]; omega

/-- Converting a timestamp floors toward earlier time, also before 1970: result = ⌊ts / 10⁶⌋ · 10⁶. -/
theorem fromTimestamp_floor (ts : Int) : OracleDate.fromTimestamp ts = ts / 1000000 * 1000000 :=
  OracleDate.fromTimestamp_eq ts

/-- The converted value is a valid Oracle-style date (whole seconds, in range, ≤ 9999-12-31 23:59:59). -/
theorem fromTimestamp_valid (ts : Int) (h : isValidTimestamp ts) : OracleDate.isValidDate (OracleDate.fromTimestamp ts) :=
  OracleDate.fromTimestamp_valid ts h

/-- and it is the greatest whole second not after the timestamp. -/
theorem fromTimestamp_greatest (ts s : Int) (hs : s % 1000000 = 0) (hle : s ≤ ts) :
    s ≤ OracleDate.fromTimestamp ts ∧ OracleDate.fromTimestamp ts ≤ ts := by
  rw [fromTimestamp_floor]; omega

theorem fromTimestamp_id (u : Int) (h : u % 1000000 = 0) : OracleDate.fromTimestamp u = u := by
  rw [fromTimestamp_floor]; omega

theorem new_eq (d t : Int) (ht : 0 ≤ t) :
    OracleDate.new d t = d * 86400000000 + t / 1000000 * 1000000 := by
  unfold OracleDate.new Timestamp.new USECONDS_PER_SECOND USECONDS_PER_DAY
  rw [rrem_nonneg_eq ht, rdiv_nonneg_eq ht]
  by_cases h : t % 1000000 ≠ 0
  · simp only [h, ↓reduceIte, ne_eq, not_false_eq_true]
  · simp only [h, ↓reduceIte]; omega

theorem new_valid (d t : Int) (hd : isValidDate d) (ht : isValidTime t) : OracleDate.isValidDate (OracleDate.new d t) := by
  rw [isValidTime_iff] at ht
  rw [new_eq d t ht.1, isValidDate_iff]
  rw [SqlDt.isValidDate_iff] at hd; omega

/-- Interval arithmetic = the timestamp result floored to the second. -/
theorem addIntervalDt_eq (od i : Int) :
    OracleDate.addIntervalDt od i = (Timestamp.addIntervalDt od i).map OracleDate.fromTimestamp := by
  unfold OracleDate.addIntervalDt
  cases Timestamp.addIntervalDt od i <;> rfl

theorem addIntervalYm_eq (od i : Int) :
    OracleDate.addIntervalYm od i = (Timestamp.addIntervalYm od i).map OracleDate.fromTimestamp := by
  unfold OracleDate.addIntervalYm
  cases Timestamp.addIntervalYm od i <;> rfl

/-- Rounding to the nearest second, halves away from zero, in exact integer arithmetic:
    the result is a whole second within half a second of the input; a tie goes away from zero. -/
theorem roundToSecond_spec (u : Int) :
    (OracleDate.roundToSecond u) % 1000000 = 0 ∧
    2 * (OracleDate.roundToSecond u - u) ≤ 1000000 ∧ 2 * (u - OracleDate.roundToSecond u) ≤ 1000000 ∧
    (2 * (OracleDate.roundToSecond u - u) < 1000000 ∨ 0 ≤ u) ∧ (2 * (u - OracleDate.roundToSecond u) < 1000000 ∨ u < 0) := by
  unfold OracleDate.roundToSecond USECONDS_PER_SECOND
  rcases Int.lt_or_le u 0 with h | h
  · rw [rdiv_neg_eq h, rrem_neg_eq h]
    dsimp only
    repeat' split
    all_goals omega
  · rw [rdiv_nonneg_eq h, rrem_nonneg_eq h]
    dsimp only
    repeat' split
    all_goals omega

/-- `add_days` = the timestamp result rounded to the nearest second, then range-checked. -/
theorem addDays_eq (od : Int) (x : F64) :
    OracleDate.addDays od x =
      (Timestamp.addDays od x).bind fun ts => Timestamp.tryFromUsecs (OracleDate.roundToSecond ts) := rfl

theorem addDays_valid (od : Int) (x : F64) (r : Int) (h : OracleDate.addDays od x = .ok r) :
    OracleDate.isValidDate r := by
  rw [addDays_eq] at h
  obtain ⟨ts, _, h2⟩ := Chk.bind_eq_ok.1 h
  obtain ⟨hv, rfl⟩ := Chk.gate_eq_ok.1 h2
  have := (roundToSecond_spec ts).1
  rw [isValidTimestamp_iff] at hv
  rw [isValidDate_iff]; omega

theorem tryFromUsecs_spec (u : Int) :
    OracleDate.tryFromUsecs u =
      if -62135596800000000 ≤ u ∧ u ≤ 253402300799999999 ∧ u % 1000000 = 0 then .ok u else .error .DateOutOfRange := by
  unfold OracleDate.tryFromUsecs
  simp only [isValidDate_iff]

/-- The difference of two Oracle-style dates is their exact distance in days, correctly rounded to a double ONCE:
    the microsecond difference converts to `f64` exactly (a multiple of 10^6 below 2^59), only the division rounds. -/
theorem subDate_correctly_rounded (a b : Int) (ha : OracleDate.isValidDate a) (hb : OracleDate.isValidDate b) (hne : a ≠ b) :
    OracleDate.subDate a b = F64.round (decide (a - b < 0)) (a - b).natAbs 86400000000 :=
  Lemmas.OracleDate.subDate_eq a b ha hb hne

/-- The maximum is 9999-12-31 23:59:59. -/
theorem MAX_eq : OracleDate.MAX = 253402300799000000 := by decide

example : OracleDate.isValidDate 0 ∧ OracleDate.isValidDate (-62135596800000000) ∧ OracleDate.isValidDate 253402300799000000 ∧
    ¬ OracleDate.isValidDate 1 ∧ OracleDate.fromTimestamp (-1) = -1000000 := by decide

end SqlDt.C16
