/-
  C02 (continuation): the text entry points.  Kept apart from Props/C02.lean because the lemmas it cites
  (Lemmas/ParseValid) themselves build on the rows proved there.
-/
import SqlDt.Lemmas.ParseValid
namespace SqlDt.C02

/-- `T::parse(text, picture)`: whatever it returns – for ANY picture fields, ANY text and ANY clock – lies inside the
    type's documented range (whole seconds for the Oracle-style date). -/
theorem parse_valid (ty : Ty) (fields : List Field) (input : Bytes) (now : Clock) (v : Int) (r : Nat)
    (h : Parser.parse ty fields input now = .ok (v, r)) : ty.Valid v :=
  Lemmas.parse_valid ty fields input now v r h

/-- The same through the picture lexer: `parseValue` is `Formatter::try_new` followed by `parse`. -/
theorem parseValue_valid (ty : Ty) (text pic : Bytes) (now : Clock) (v : Int) (r : Nat)
    (h : parseValue ty text pic now = .ok (v, r)) : ty.Valid v :=
  Lemmas.parseValue_valid ty text pic now v r h

/-- Human-readable deserialisation (`visit_str`) is one such entry point. -/
theorem deStr_valid (ty : Ty) (text : Bytes) (now : Clock) (v : Int) (h : Serde.deStr ty text now = .ok v) : ty.Valid v :=
  Lemmas.deStr_valid ty text now v h

/-- Non-vacuity: texts at and just beyond the range through the parser. -/
example : (parseValue .D (bytesOf "9999-12-31") (bytesOf "YYYY-MM-DD") default).toOption.map Prod.fst = some 2932896 ∧
    (parseValue .D (bytesOf "0000-12-31") (bytesOf "YYYY-MM-DD") default).toOption = none ∧
    (parseValue .DT (bytesOf "100000000 00:00:00.000001") (bytesOf "DD HH24:MI:SS.FF6") default).toOption = none := by
  decide +kernel

end SqlDt.C02
