/-
  C02  Every value produced by a safe operation lies in its type's documented range.
  One row per operation: `Valid args → op args = ok v → Valid v`.  Rows whose operation has a functional
  characterisation elsewhere (C01, C07–C09, C12–C14, C16) cite it.
-/
import SqlDt.Props.C07
import SqlDt.Props.C08
import SqlDt.Props.C12
import SqlDt.Props.C13
import SqlDt.Props.C14
import SqlDt.Props.C16
import SqlDt.Props.C09
import SqlDt.Props.C10
import SqlDt.Props.C11
namespace SqlDt.C02

theorem date_tryFromDays (k v : Int) (h : Date.tryFromDays k = .ok v) : isValidDate v := Chk.gate_valid h
theorem time_tryFromUsecs (k v : Int) (h : Time.tryFromUsecs k = .ok v) : isValidTime v := Chk.gate_valid h
theorem ts_tryFromUsecs (k v : Int) (h : Timestamp.tryFromUsecs k = .ok v) : isValidTimestamp v := Chk.gate_valid h
theorem ym_tryFromMonths (k v : Int) (h : IntervalYM.tryFromMonths k = .ok v) : IntervalYM.isValidMonths v := Chk.gate_valid h
theorem dt_tryFromUsecs (k v : Int) (h : IntervalDT.tryFromUsecs k = .ok v) : IntervalDT.isValidUsecs v := Chk.gate_valid h
theorem od_tryFromUsecs (k v : Int) (h : OracleDate.tryFromUsecs k = .ok v) : OracleDate.isValidDate v := Chk.gate_valid h

theorem date_addDays (d k v : Int) (h : Date.addDays d k = .ok v) : isValidDate v :=
  Date.addDays_ok_valid d k v h

theorem date_subDays (d k v : Int) (h : Date.subDays d k = .ok v) : isValidDate v :=
  Date.subDays_ok_valid d k v h

theorem ts_addIntervalDt (ts i v : Int) (h : Timestamp.addIntervalDt ts i = .ok v) : isValidTimestamp v :=
  Chk.gate_valid (Timestamp.addIntervalDt_eq ts i ▸ h)

theorem ts_subIntervalDt (ts i v : Int) (h : Timestamp.subIntervalDt ts i = .ok v) : isValidTimestamp v :=
  ts_addIntervalDt _ _ _ h

theorem ts_addTime (ts t v : Int) (h : Timestamp.addTime ts t = .ok v) : isValidTimestamp v := Chk.gate_valid h
theorem ts_subTime (ts t v : Int) (h : Timestamp.subTime ts t = .ok v) : isValidTimestamp v := Chk.gate_valid h

theorem ts_addDays (ts : Int) (x : F64) (v : Int) (h : Timestamp.addDays ts x = .ok v) : isValidTimestamp v :=
  Timestamp.addDays_ok_valid ts x v h

theorem ym_add (a b v : Int) (h : IntervalYM.addIntervalYm a b = .ok v) : IntervalYM.isValidMonths v :=
  Chk.gate_valid (IntervalYM.addIntervalYm_eq a b ▸ h)

theorem dt_add (a b v : Int) (h : IntervalDT.addIntervalDt a b = .ok v) : IntervalDT.isValidUsecs v :=
  Chk.gate_valid (IntervalDT.addIntervalDt_eq a b ▸ h)

theorem dt_subTime (a t v : Int) (h : IntervalDT.subTime a t = .ok v) : IntervalDT.isValidUsecs v := Chk.gate_valid h

theorem ts_new (d t : Int) (hd : isValidDate d) (ht : isValidTime t) : isValidTimestamp (Timestamp.new d t) :=
  C07.new_valid d t hd ht
theorem ts_extract (ts : Int) (h : isValidTimestamp ts) :
    isValidDate (Timestamp.extract ts).1 ∧ isValidTime (Timestamp.extract ts).2 :=
  ⟨C07.extract_date_valid ts h, C07.extract_time_valid ts⟩
theorem time_tryFromHms (h mi s us v : Int) (h0 : 0 ≤ h) (m0 : 0 ≤ mi) (s0 : 0 ≤ s) (u0 : 0 ≤ us)
    (hv : Time.tryFromHms h mi s us = .ok v) : isValidTime v := C07.tryFromHms_valid h mi s us v h0 m0 s0 u0 hv
theorem time_addIntervalDt (t i : Int) (ht : isValidTime t) : isValidTime (Time.addIntervalDt t i) :=
  C12.addIntervalDt_valid t i ht
theorem time_subIntervalDt (t i : Int) (ht : isValidTime t) : isValidTime (Time.subIntervalDt t i) :=
  C12.addIntervalDt_valid t (-i) ht
theorem time_subTime (a b : Int) (ha : isValidTime a) (hb : isValidTime b) : IntervalDT.isValidUsecs (Time.subTime a b) :=
  C12.subTime_valid a b ha hb
theorem time_fromIntervalDt (i : Int) : isValidTime (Time.fromIntervalDt i) := C12.fromIntervalDt_valid i
theorem ts_subTimestamp (a b : Int) (ha : isValidTimestamp a) (hb : isValidTimestamp b) :
    IntervalDT.isValidUsecs (Timestamp.subTimestamp a b) := by
  rw [(C08.Timestamp.subTimestamp_exact a b ha hb).1]; exact (C08.Timestamp.subTimestamp_exact a b ha hb).2
theorem ts_subDate (ts d : Int) (hts : isValidTimestamp ts) (hd : isValidDate d) :
    IntervalDT.isValidUsecs (Timestamp.subDate ts d) := (C08.Timestamp.subDate_exact ts d hts hd).2
theorem ym_tryFromYm (y m v : Int) (hy : 0 ≤ y) (hm : 0 ≤ m) (h : IntervalYM.tryFromYm y m = .ok v) :
    IntervalYM.isValidMonths v := C13.ym_tryFromYm_valid y m v hy hm h
theorem dt_tryFromDhms (d h mi s us v : Int) (hd : 0 ≤ d) (hh : 0 ≤ h) (hm : 0 ≤ mi) (hs : 0 ≤ s) (hu : 0 ≤ us)
    (hv : IntervalDT.tryFromDhms d h mi s us = .ok v) : IntervalDT.isValidUsecs v :=
  C13.dt_tryFromDhms_valid d h mi s us v hd hh hm hs hu hv
theorem ym_negate (v : Int) (h : IntervalYM.isValidMonths v) : IntervalYM.isValidMonths (IntervalYM.negate v) :=
  C13.ym_negate_valid v h
theorem dt_negate (v : Int) (h : IntervalDT.isValidUsecs v) : IntervalDT.isValidUsecs (IntervalDT.negate v) :=
  C13.dt_negate_valid v h
theorem dt_mulF64 (v : Int) (x : F64) (r : Int) (h : IntervalDT.mulF64 v x = .ok r) : IntervalDT.isValidUsecs r :=
  C14.dt_mul_valid v x r h
theorem ym_mulF64 (v : Int) (x : F64) (r : Int) (h : IntervalYM.mulF64 v x = .ok r) : IntervalYM.isValidMonths r :=
  C14.ym_mul_valid v x r h
theorem od_fromTimestamp (ts : Int) (h : isValidTimestamp ts) : OracleDate.isValidDate (OracleDate.fromTimestamp ts) :=
  C16.fromTimestamp_valid ts h
theorem od_new (d t : Int) (hd : isValidDate d) (ht : isValidTime t) : OracleDate.isValidDate (OracleDate.new d t) :=
  C16.new_valid d t hd ht
theorem od_addDays (od : Int) (x : F64) (r : Int) (h : OracleDate.addDays od x = .ok r) : OracleDate.isValidDate r :=
  C16.addDays_valid od x r h

theorem od_addIntervalDt (od i r : Int) (h : OracleDate.addIntervalDt od i = .ok r) : OracleDate.isValidDate r :=
  Chk.bind_pure_valid (fun ts hts => C16.fromTimestamp_valid ts (ts_addIntervalDt od i ts hts)) h

theorem date_tryFromYmd (y m d v : Int) (h : Date.tryFromYmd y m d = .ok v) : isValidDate v :=
  C01.tryFromYmd_ok_valid y m d v h

theorem date_trunc (u : TUnit) (d v : Int) (hd : isValidDate d) (h : Date.trunc u d = .ok v) : isValidDate v :=
  Lemmas.dayGate_valid (Lemmas.date_trunc_gate u d hd) h

theorem date_round (u : TUnit) (d v : Int) (hd : isValidDate d) (h : Date.round u d = .ok v) : isValidDate v :=
  Lemmas.dayGate_valid (Lemmas.date_round_gate u d hd) h

theorem date_lastDay (d : Int) (hd : isValidDate d) : isValidDate (Date.lastDayOfMonth d) := by
  obtain ⟨y, m, dd, hv, rfl⟩ := Lemmas.date_decompose d hd
  obtain ⟨h1, h2⟩ := C09.lastDayOfMonth_spec y m dd hv
  rw [h1]; exact (isValidDate_iff _).2 (Lemmas.dayNumber_range _ _ _ h2)

theorem date_addMonths (d k v : Int) (h : Date.addIntervalYmInternal d k = .ok v) : isValidDate v :=
  C09.addMonths_ok_valid d k v h

theorem ts_trunc (u : TUnit) (x v : Int) (hx : isValidTimestamp x) (h : Timestamp.trunc u x = .ok v) :
    isValidTimestamp v :=
  Lemmas.tsGate_valid (Lemmas.ts_trunc_gate u x hx) h

theorem ts_round (u : TUnit) (x v : Int) (hx : isValidTimestamp x) (h : Timestamp.round u x = .ok v) :
    isValidTimestamp v :=
  Lemmas.tsGate_valid (Lemmas.ts_round_gate u x hx) h

theorem ts_lastDay (x : Int) (hx : isValidTimestamp x) : isValidTimestamp (Timestamp.lastDayOfMonth x) := by
  have hr := (isValidTimestamp_iff x).1 hx
  obtain ⟨y, m, dd, hv, hd⟩ := Lemmas.date_decompose (x / 86400000000) ((isValidDate_iff _).2 (by omega))
  rw [C09.ts_lastDayOfMonth_spec x y m dd hv hd]
  obtain ⟨_, h2⟩ := C09.lastDayOfMonth_spec y m dd hv
  have := Lemmas.dayNumber_range _ _ _ h2
  rw [isValidTimestamp_iff]; omega

theorem ts_addMonths (x k v : Int) (h : Timestamp.addIntervalYm x k = .ok v) : isValidTimestamp v := by
  rw [C09.ts_addIntervalYm_eq] at h
  obtain ⟨d, hd, rfl⟩ := Chk.map_eq_ok.1 h
  exact C07.new_valid d _ (date_addMonths _ k d hd) ((isValidTime_iff _).2 (by omega))

/-- Oracle-style dates: every operation is the timestamp operation followed by the floor to the second. -/
theorem od_of_ts (r : Chk Int) (v : Int) (hr : ∀ t, r = .ok t → isValidTimestamp t)
    (h : (r.bind fun t => .ok (OracleDate.fromTimestamp t)) = .ok v) : OracleDate.isValidDate v :=
  Chk.bind_pure_valid (fun t ht => C16.fromTimestamp_valid t (hr t ht)) h

theorem od_trunc (u : TUnit) (x v : Int) (hx : OracleDate.isValidDate x) (h : OracleDate.trunc u x = .ok v) :
    OracleDate.isValidDate v :=
  od_of_ts (Timestamp.trunc u x) v (fun t ht => ts_trunc u x t hx.1 ht) h

theorem od_round (u : TUnit) (x v : Int) (hx : OracleDate.isValidDate x) (h : OracleDate.round u x = .ok v) :
    OracleDate.isValidDate v :=
  od_of_ts (Timestamp.round u x) v (fun t ht => ts_round u x t hx.1 ht) h

theorem od_addMonths (x k v : Int) (h : OracleDate.addIntervalYm x k = .ok v) : OracleDate.isValidDate v :=
  od_of_ts (Timestamp.addIntervalYm x k) v (fun t ht => ts_addMonths x k t ht) h

theorem od_lastDay (x : Int) (hx : OracleDate.isValidDate x) : OracleDate.isValidDate (OracleDate.lastDayOfMonth x) :=
  C16.fromTimestamp_valid _ (ts_lastDay x hx.1)

/-! ### the `now` constructors and time-of-day → timestamp conversions, under ANY clock (clock fields as unsigned) -/

theorem date_now (c : Clock) (v : Int) (hm : 0 ≤ c.month) (hd : 0 ≤ c.day) (h : Date.now c = .ok v) : isValidDate v :=
  date_tryFromYmd c.year c.month c.day v h

theorem ts_now (c : Clock) (v : Int) (hm : 0 ≤ c.month) (hd : 0 ≤ c.day) (hh : 0 ≤ c.hour) (hmi : 0 ≤ c.minute)
    (hs : 0 ≤ c.second) (hu : 0 ≤ c.usec) (h : Timestamp.now c = .ok v) : isValidTimestamp v :=
  Chk.bind_valid (fun d => date_tryFromYmd _ _ _ d)
    (fun d hdv => Chk.bind_pure_valid fun t ht => ts_new d t hdv (time_tryFromHms _ _ _ _ t hh hmi hs hu ht)) h

theorem ts_fromTime (t : Int) (c : Clock) (v : Int) (ht : isValidTime t) (hm : 0 ≤ c.month) (hd : 0 ≤ c.day)
    (h : Timestamp.fromTime t c = .ok v) : isValidTimestamp v :=
  Chk.bind_pure_valid (fun d hd' => ts_new d t (date_tryFromYmd _ _ _ d hd') ht) h

/-- Out-of-range results are errors, never wrapped or clamped: the exact-result theorems of C08 say that an
    operation returns `ok` only with the exact mathematical result. E.g. one day past the maximum: -/
example : Date.addDays 2932896 1 = .error .DateOutOfRange ∧ Date.subDays (-719162) 1 = .error .DateOutOfRange ∧
    Timestamp.addTime 253402300799999999 1 = .error .DateOutOfRange := by decide

end SqlDt.C02
