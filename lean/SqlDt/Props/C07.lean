/-
  C07  A timestamp is exactly its (date, time-of-day) pair, before and after 1970.
-/
import SqlDt.Lemmas.Div
import SqlDt.Lemmas.FloatOps
namespace SqlDt.C07
open SqlDt Gen

/-- Splitting a combined timestamp returns the pair, for every day number and every microsecond of the day
    (negative day numbers included; no range assumption on the date is needed). -/
theorem extract_new (d t : Int) (ht : isValidTime t) :
    Timestamp.extract (Timestamp.new d t) = (d, t) := by
  rw [isValidTime_iff] at ht
  rw [Timestamp.extract_eq, Timestamp.new_eq, Prod.mk.injEq]; omega

/-- Combining the two halves of a timestamp gives it back. -/
theorem new_extract (ts : Int) :
    Timestamp.new (Timestamp.extract ts).1 (Timestamp.extract ts).2 = ts := by
  rw [Timestamp.extract_eq, Timestamp.new_eq]; omega

/-- The time half is always a valid time of day. -/
theorem extract_time_valid (ts : Int) : isValidTime (Timestamp.extract ts).2 := by
  rw [isValidTime_iff, Timestamp.extract_eq]; simp only; omega

/-- `date()` and `time()` (separate code paths in the crate) agree with `extract`. -/
theorem date_time_eq_extract (ts : Int) :
    (Timestamp.date ts, Timestamp.time ts) = Timestamp.extract ts := by
  rw [Timestamp.extract_eq, Timestamp.date_eq, Timestamp.time_eq]

/-- The date half of a valid timestamp is a valid date. -/
theorem extract_date_valid (ts : Int) (h : isValidTimestamp ts) : isValidDate (Timestamp.extract ts).1 :=
  Timestamp.extract_date_valid ts h

/-- A valid (date, time) pair combines to a valid timestamp. -/
theorem new_valid (d t : Int) (hd : isValidDate d) (ht : isValidTime t) : isValidTimestamp (Timestamp.new d t) := by
  rw [isValidDate_iff] at hd; rw [isValidTime_iff] at ht; rw [isValidTimestamp_iff, Timestamp.new_eq]; omega

/-- Chronological order of timestamps is the lexicographic order of (date, time). -/
theorem new_le_iff (d t d' t' : Int) (ht : isValidTime t) (ht' : isValidTime t') :
    Timestamp.new d t ≤ Timestamp.new d' t' ↔ (d < d' ∨ (d = d' ∧ t ≤ t')) := by
  rw [isValidTime_iff] at ht ht'
  rw [Timestamp.new_eq, Timestamp.new_eq]; omega

theorem new_inj (d t d' t' : Int) (ht : isValidTime t) (ht' : isValidTime t') :
    Timestamp.new d t = Timestamp.new d' t' ↔ (d = d' ∧ t = t') := by
  rw [isValidTime_iff] at ht ht'
  rw [Timestamp.new_eq, Timestamp.new_eq]; omega

/-- `try_from_hms` accepts exactly the tuples hour<24, minute<60, second<60, µs<10^6 (arguments are u32, so ≥ 0),
    reports the first offending field, and the accepted value is the exact microsecond count. -/
theorem tryFromHms_spec (h mi s us : Int) :
    Time.tryFromHms h mi s us =
      if h ≥ 24 then .error .TimeOutOfRange
      else if mi ≥ 60 then .error .InvalidMinute
      else if s ≥ 60 then .error .InvalidSecond
      else if us ≥ 1000000 then .error .InvalidFraction
      else .ok (h * 3600000000 + mi * 60000000 + s * 1000000 + us) := by
  have : us > 999999 ↔ us ≥ 1000000 := by omega
  simp only [Time.tryFromHms, Time.fromHmsUnchecked_eq, HOURS_PER_DAY, MINUTES_PER_HOUR, SECONDS_PER_MINUTE,
    USECONDS_MAX, this]

theorem isValid_iff (h mi s us : Int) :
    Time.isValid h mi s us = true ↔ (h < 24 ∧ mi < 60 ∧ s < 60 ∧ us ≤ 999999) := by
  unfold Time.isValid HOURS_PER_DAY MINUTES_PER_HOUR SECONDS_PER_MINUTE USECONDS_MAX
  (repeat' split) <;> simp <;> omega

/-- Every accepted tuple yields a valid time of day. -/
theorem tryFromHms_valid (h mi s us v : Int) (h0 : 0 ≤ h) (m0 : 0 ≤ mi) (s0 : 0 ≤ s) (u0 : 0 ≤ us)
    (hv : Time.tryFromHms h mi s us = .ok v) : isValidTime v := by
  simp only [tryFromHms_spec, Chk.ite_error_eq_ok, Except.ok.injEq] at hv
  rw [isValidTime_iff]; omega

/-- `extract` undoes `from_hms_unchecked` (the value `try_from_hms` returns on a tuple it accepts), whatever the hour. -/
theorem extract_fromHms (h mi s us : Int) (h0 : 0 ≤ h) (m0 : 0 ≤ mi) (s0 : 0 ≤ s) (u0 : 0 ≤ us)
    (hm : mi < 60) (hs : s < 60) (hu : us < 1000000) :
    Time.extract (Time.fromHmsUnchecked h mi s us) = (h, mi, s, us) :=
  Time.extract_fromHms h mi s us h0 ⟨m0, hm⟩ ⟨s0, hs⟩ ⟨u0, hu⟩

/-- The fields extracted from a valid time are in the ranges `try_from_hms` accepts, and `from_hms_unchecked` of them
    is the time again. -/
theorem fromHms_extract (t : Int) (ht : isValidTime t) :
    0 ≤ (Time.extract t).1 ∧ (Time.extract t).1 < 24 ∧ 0 ≤ (Time.extract t).2.1 ∧ (Time.extract t).2.1 < 60 ∧
    0 ≤ (Time.extract t).2.2.1 ∧ (Time.extract t).2.2.1 < 60 ∧ 0 ≤ (Time.extract t).2.2.2 ∧
    (Time.extract t).2.2.2 < 1000000 ∧
    Time.fromHmsUnchecked (Time.extract t).1 (Time.extract t).2.1 (Time.extract t).2.2.1 (Time.extract t).2.2.2 = t := by
  rw [isValidTime_iff] at ht
  obtain ⟨a, b, c, d, e, f, g, hr⟩ := Time.fromHms_extract t ht.1
  refine ⟨a, ?_, b, c, d, e, f, g, hr⟩
  rw [Time.fromHmsUnchecked_eq] at hr
  omega

/-- `try_from_usecs` gate. -/
theorem tryFromUsecs_spec (u : Int) :
    Time.tryFromUsecs u = if 0 ≤ u ∧ u < 86400000000 then .ok u else .error .TimeOutOfRange := by
  simp only [Time.tryFromUsecs, isValidTime_iff]

/-- The hour / minute accessors of a time of day are the extracted fields. -/
theorem accessors_eq_extract (t : Int) (ht : isValidTime t) :
    Time.hour t = (Time.extract t).1 ∧ Time.minute t = (Time.extract t).2.1 := by
  rw [isValidTime_iff] at ht
  rw [Time.extract_eq _ ht.1, Time.hour_eq _ ht.1, Time.minute_eq _ ht.1]
  exact ⟨rfl, rfl⟩

/-- The `second()` accessor (of a time of day, hence of a timestamp and an Oracle-style date, which delegate to it) is
    the double NEAREST to `(seconds·10^6 + µs) / 10^6`: one correctly rounded division of the exact sub-minute count. -/
theorem second_correctly_rounded (t : Int) (ht : isValidTime t) :
    Time.second t = F64.round false (t % 60000000).toNat 1000000 :=
  Lemmas.Time.second_eq t ((isValidTime_iff t).1 ht)

/-- Non-vacuity: the hypotheses are met by the extreme and an interior value. -/
example : isValidTime 0 ∧ isValidTime 86399999999 ∧ isValidTimestamp (Timestamp.new (-719162) 0) ∧
    isValidTimestamp (Timestamp.new 2932896 86399999999) ∧ isValidDate (-1) := by decide

end SqlDt.C07
