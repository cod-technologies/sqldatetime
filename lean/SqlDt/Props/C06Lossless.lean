/-
  C06 (continuation): the round trip for the whole class of lossless pictures.  `Spec.Lossless ty fields`
  (Spec/Lossless.lean, where each condition is explained) is a decidable reading of "a picture that carries all of v's
  information unambiguously": every component exactly once, in any order, with any separators and name styles;
  variable-width fields followed by a separator; the signed interval field first.
-/
import SqlDt.Lemmas.ReadingRoundTrip
import SqlDt.Lemmas.ReadingExamples
namespace SqlDt.C06
open Spec

/-- For EVERY valid value of EVERY type, EVERY lossless picture and any clock: parsing the formatted text with the same
    picture yields the value again. -/
theorem format_parse (ty : Ty) (v : Int) (hv : ty.Valid v) (fields : List Field)
    (hwf : ∀ f ∈ fields, Lemmas.Field.WellFormed f) (hl : Lossless ty fields = true) (now : Clock) (text : Bytes)
    (hf : Formatter.format ty v fields none = .ok text) :
    ∃ r, Parser.parse ty fields text now = .ok (v, r) :=
  Lemmas.format_parse ty v hv fields hwf hl now text hf

/-- …and formatting that parse result with the picture reproduces the text byte for byte. -/
theorem format_parse_format (ty : Ty) (v : Int) (hv : ty.Valid v) (fields : List Field)
    (hwf : ∀ f ∈ fields, Lemmas.Field.WellFormed f) (hl : Lossless ty fields = true) (now : Clock) (text : Bytes)
    (hf : Formatter.format ty v fields none = .ok text) :
    ∃ v' r, Parser.parse ty fields text now = .ok (v', r) ∧ Formatter.format ty v' fields none = .ok text :=
  Lemmas.format_parse_format ty v hv fields hwf hl now text hf

/-- The same from the picture TEXT (`T::format(picture)` then `T::parse(text, picture)`). -/
theorem roundtrip_from_picture (ty : Ty) (v : Int) (hv : ty.Valid v) (pic : Bytes) (fields : List Field)
    (hp : Lexer.tryNew pic = .ok fields) (hl : Lossless ty fields = true) (now : Clock) (text : Bytes)
    (hf : formatValue ty v pic none = .ok text) :
    ∃ r, parseValue ty text pic now = .ok (v, r) := by
  unfold formatValue at hf
  unfold parseValue
  simp only [hp, bind, Except.bind] at hf ⊢
  exact format_parse ty v hv fields (Lemmas.tryNew_wf pic fields hp) hl now text hf

/-- Pictures of all six types in the class (any order, names, extra weekday / day of year), and three that are not
    (two-digit year, three fraction digits, 12-hour clock without meridian). -/
example : Lemmas.Examples.lossless .TS "Day, DD Month YYYY HH12:MI:SS.FF9 P.M." = true ∧
    Lemmas.Examples.lossless .TS "FF7 SS MI HH24 DDD YYYY dy" = true ∧ Lemmas.Examples.lossless .D "DD Mon YYYY D" = true ∧
    Lemmas.Examples.lossless .T "a.m. HH12 MI SS FF6" = true ∧ Lemmas.Examples.lossless .OD "DDD YYYY HH12 PM MI SS" = true ∧
    Lemmas.Examples.lossless .YM "YYYY-MM" = true ∧ Lemmas.Examples.lossless .DT "DD,FF9;SS/MI\\HH24" = true ∧
    Lemmas.Examples.lossless .D "YY-MM-DD" = false ∧ Lemmas.Examples.lossless .T "HH24:MI:SS.FF3" = false ∧
    Lemmas.Examples.lossless .T "HH:MI:SS.FF6" = false := by
  decide +kernel

end SqlDt.C06
