/-
  C06 (continuation): the full round trip, for every valid value, through the six lossless pictures that the crate
  itself relies on (the serde human-readable form).  The proof rests, through the lemmas on digit runs, on the digit
  lemmas of Props/C06.lean, hence a file of its own.
-/
import SqlDt.Lemmas.RoundTrip
namespace SqlDt.C06

/-- For EVERY valid value of EVERY type and any clock: formatting with the type's serde picture succeeds and
    parsing that text with the same picture returns exactly the value. -/
theorem serde_picture_roundtrip (ty : Ty) (v : Int) (hv : ty.Valid v) (now : Clock) :
    ∃ text, formatValue ty v (Serde.picture ty) (some 32) = .ok text ∧
      ∃ r, parseValue ty text (Serde.picture ty) now = .ok (v, r) := by
  obtain ⟨text, a, _, c⟩ := Lemmas.serde_roundtrip ty v hv
  exact ⟨text, a, c now⟩

end SqlDt.C06
