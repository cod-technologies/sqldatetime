/-
  C02, the per-operation table: one row for every value-returning operation of the line protocol (tools/catalog.py
  `OPS`) that Props/C02.lean and Props/C02Parse.lean do not state themselves.  Every row is about the same model
  expression the driver (Driver.lean, `handler`) evaluates for the operation, in the shape
  `Valid receiver/args → op args = ok v → Valid v`.  Hypotheses are only the validity of value-typed arguments; `u32`
  scalars are `0 ≤ x` (needed: the model computes on unbounded integers), `i32`/`i64`/`f64` scalars and clocks are
  unrestricted (a clock's month/day are unsigned: `0 ≤`).  Five rows carry hypotheses their proofs do not use
  (`date_subIntervalYm`, `ts_subIntervalYm`, `od_subIntervalYm`, `od_fromTime`, `od_now`).  tools/rows_map.json maps every
  protocol operation to its row; tools/rows_check.py checks the map against the catalogue and the driver and that every
  named theorem exists.
-/
import SqlDt.Props.C02
namespace SqlDt.C02Rows

theorem time_zero_valid : isValidTime 0 := by decide

/-- Every valid Oracle-style date is a valid timestamp (`OD.to_TS`, and the receiver of every delegated operation). -/
theorem od_toTimestamp (od : Int) (h : OracleDate.isValidDate od) : isValidTimestamp od := h.1

/-- Every valid time of day is a valid day-time interval (`DT.from_T`: the identity on the raw count). -/
theorem dt_fromTime (t : Int) (ht : isValidTime t) : IntervalDT.isValidUsecs t := by
  rw [isValidTime_iff] at ht
  rw [IntervalDT.isValidUsecs_iff]; omega

/-- `D.to_TS` (`Timestamp::from(Date)`): midnight of a valid date. -/
theorem date_toTimestamp (d : Int) (hd : isValidDate d) : isValidTimestamp (Timestamp.new d 0) :=
  C02.ts_new d 0 hd time_zero_valid

example : isValidDate 2932896 ∧ Timestamp.new 2932896 0 = 253402214400000000 ∧ isValidDate (-719162) ∧
    Timestamp.new (-719162) 0 = -62135596800000000 := by decide

/-- `D.and_hms`. -/
theorem date_andHms (d h mi s us v : Int) (hd : isValidDate d) (h0 : 0 ≤ h) (m0 : 0 ≤ mi) (s0 : 0 ≤ s) (u0 : 0 ≤ us)
    (hv : Timestamp.andHms d h mi s us = .ok v) : isValidTimestamp v :=
  Chk.bind_pure_valid (fun t ht => C02.ts_new d t hd (C02.time_tryFromHms h mi s us t h0 m0 s0 u0 ht)) hv

example : isValidDate 2932896 ∧ Timestamp.andHms 2932896 23 59 59 999999 = .ok 253402300799999999 ∧
    Timestamp.andHms 0 24 0 0 0 = .error .TimeOutOfRange := by decide

/-- `D.and_time`. -/
theorem date_andTime (d t : Int) (hd : isValidDate d) (ht : isValidTime t) : isValidTimestamp (Timestamp.new d t) :=
  C02.ts_new d t hd ht

/-- `D.add_time` (`Date + Time`). -/
theorem date_addTime (d t : Int) (hd : isValidDate d) (ht : isValidTime t) : isValidTimestamp (Timestamp.new d t) :=
  C02.ts_new d t hd ht

/-- `D.add_ym` (`Date + IntervalYM`, a timestamp at midnight), for ANY month count. -/
theorem date_addIntervalYm (d i v : Int)
    (h : (do let r ← Date.addIntervalYmInternal d i; pure (Timestamp.new r 0) : Chk Int) = .ok v) :
    isValidTimestamp v :=
  Chk.bind_pure_valid (fun r hr => C02.ts_new r 0 (C02.date_addMonths d i r hr) time_zero_valid) h

/-- `D.sub_ym`. -/
theorem date_subIntervalYm (d i v : Int) (hd : isValidDate d)
    (h : (do let r ← Date.addIntervalYmInternal d (IntervalYM.negate i); pure (Timestamp.new r 0) : Chk Int) = .ok v) :
    isValidTimestamp v :=
  date_addIntervalYm d (IntervalYM.negate i) v h

example : isValidDate 19782 ∧ IntervalYM.isValidMonths 1 ∧
    (do let r ← Date.addIntervalYmInternal 19782 1; pure (Timestamp.new r 0) : Chk Int) = .ok 1711670400000000 ∧
    (do let r ← Date.addIntervalYmInternal 19753 1; pure (Timestamp.new r 0) : Chk Int) = .error .InvalidDate := by
  decide

/-- `D.add_dt` (`Date + IntervalDT`). -/
theorem date_addIntervalDt (d i v : Int) (h : Timestamp.addIntervalDt (Timestamp.new d 0) i = .ok v) :
    isValidTimestamp v := C02.ts_addIntervalDt _ i v h

/-- `D.sub_dt`. -/
theorem date_subIntervalDt (d i v : Int) (h : Timestamp.subIntervalDt (Timestamp.new d 0) i = .ok v) :
    isValidTimestamp v := C02.ts_subIntervalDt _ i v h

/-- `D.sub_time`. -/
theorem date_subTime (d t v : Int) (h : Timestamp.subTime (Timestamp.new d 0) t = .ok v) : isValidTimestamp v :=
  C02.ts_subTime _ t v h

/-- `D.sub_ts` (`Date − Timestamp`, a day-time interval). -/
theorem date_subTimestamp (d ts : Int) (hd : isValidDate d) (hts : isValidTimestamp ts) :
    IntervalDT.isValidUsecs (Timestamp.subTimestamp (Timestamp.new d 0) ts) :=
  C02.ts_subTimestamp _ ts (date_toTimestamp d hd) hts

example : isValidDate (-719162) ∧ isValidTimestamp 253402300799999999 ∧
    Timestamp.subTimestamp (Timestamp.new (-719162) 0) 253402300799999999 = -315537897599999999 ∧
    IntervalDT.isValidUsecs (-315537897599999999) := by decide

/-- `IntervalDT / f64` (the row `DT.div_f64`). -/
theorem dt_divF64 (v : Int) (x : F64) (r : Int) (h : IntervalDT.divF64 v x = .ok r) : IntervalDT.isValidUsecs r :=
  C14.dt_div_valid v x r h

/-- `T.mul_f64` (`Time * f64`, a day-time interval). -/
theorem time_mulF64 (t : Int) (x : F64) (r : Int) (h : IntervalDT.mulF64 t x = .ok r) : IntervalDT.isValidUsecs r :=
  C02.dt_mulF64 t x r h

/-- `T.div_f64`. -/
theorem time_divF64 (t : Int) (x : F64) (r : Int) (h : IntervalDT.divF64 t x = .ok r) : IntervalDT.isValidUsecs r :=
  dt_divF64 t x r h

/-- `T.from_TS` (`Time::from(Timestamp)`): the time-of-day half, for every integer. -/
theorem time_fromTimestamp (ts : Int) : isValidTime (Timestamp.time ts) := by
  rw [Timestamp.time_eq, isValidTime_iff]; omega

/-- `T.from_OD`. -/
theorem time_fromOracleDate (od : Int) : isValidTime (Timestamp.time od) := time_fromTimestamp od

example : Timestamp.time (-1) = 86399999999 ∧ Timestamp.time (-62135596800000000) = 0 := by decide

/-- `TS.sub_ym`, for ANY month count. -/
theorem ts_subIntervalYm (ts i v : Int) (hts : isValidTimestamp ts) (h : Timestamp.subIntervalYm ts i = .ok v) :
    isValidTimestamp v := C02.ts_addMonths ts (IntervalYM.negate i) v h

/-- `TS.sub_days`, for every double. -/
theorem ts_subDays (ts : Int) (x : F64) (v : Int) (h : Timestamp.subDays ts x = .ok v) : isValidTimestamp v :=
  C02.ts_addDays ts (F64.neg x) v h

/-- `TS.oracle_sub_date` (`Timestamp − oracle::Date`). -/
theorem ts_oracleSubDate (ts od : Int) (hts : isValidTimestamp ts) (hod : OracleDate.isValidDate od) :
    IntervalDT.isValidUsecs (Timestamp.subTimestamp ts od) := C02.ts_subTimestamp ts od hts hod.1

/-- `TS.oracle_add_days`: the Oracle-style sum of a timestamp and a number of days, for every double. -/
theorem ts_oracleAddDays (ts : Int) (x : F64) (r : Int) (h : OracleDate.addDays (OracleDate.fromTimestamp ts) x = .ok r) :
    OracleDate.isValidDate r := C02.od_addDays _ x r h

/-- `TS.oracle_sub_days`. -/
theorem ts_oracleSubDays (ts : Int) (x : F64) (r : Int)
    (h : OracleDate.addDays (OracleDate.fromTimestamp ts) (F64.neg x) = .ok r) : OracleDate.isValidDate r :=
  C02.od_addDays _ (F64.neg x) r h

/-- `YM.sub_ym`. -/
theorem ym_sub (a b v : Int) (h : IntervalYM.subIntervalYm a b = .ok v) : IntervalYM.isValidMonths v :=
  C02.ym_add a (IntervalYM.negate b) v h

/-- `YM.div_f64`, for every double. -/
theorem ym_divF64 (v : Int) (x : F64) (r : Int) (h : IntervalYM.divF64 v x = .ok r) : IntervalYM.isValidMonths r :=
  C14.ym_div_valid v x r h

/-- `DT.sub_dt`. -/
theorem dt_sub (a b v : Int) (h : IntervalDT.subIntervalDt a b = .ok v) : IntervalDT.isValidUsecs v :=
  C02.dt_add a (IntervalDT.negate b) v h

example : IntervalYM.isValidMonths 2136000000 ∧ IntervalYM.subIntervalYm 2136000000 (-1) = .error .IntervalOutOfRange ∧
    IntervalDT.subIntervalDt 8640000000000000000 8640000000000000000 = .ok 0 ∧ isValidTime 86399999999 ∧
    IntervalDT.isValidUsecs 86399999999 := by decide

/-- `OD.extract`: the (date, time) halves of a valid Oracle-style date. -/
theorem od_extract (od : Int) (h : OracleDate.isValidDate od) :
    isValidDate (Timestamp.extract od).1 ∧ isValidTime (Timestamp.extract od).2 := C02.ts_extract od h.1

/-- `OD.sub_dt`. -/
theorem od_subIntervalDt (od i r : Int) (h : OracleDate.subIntervalDt od i = .ok r) : OracleDate.isValidDate r :=
  C02.od_addIntervalDt od (IntervalDT.negate i) r h

/-- `OD.sub_ym`, for ANY month count. -/
theorem od_subIntervalYm (od i r : Int) (hod : OracleDate.isValidDate od) (h : OracleDate.subIntervalYm od i = .ok r) :
    OracleDate.isValidDate r := C02.od_addMonths od (IntervalYM.negate i) r h

/-- `OD.add_time` (`oracle::Date + Time`, a timestamp). -/
theorem od_addTime (od t v : Int) (h : Timestamp.addTime od t = .ok v) : isValidTimestamp v := C02.ts_addTime od t v h

/-- `OD.sub_time`. -/
theorem od_subTime (od t v : Int) (h : Timestamp.subTime od t = .ok v) : isValidTimestamp v := C02.ts_subTime od t v h

/-- `OD.sub_days`, for every double. -/
theorem od_subDays (od : Int) (x : F64) (r : Int) (h : OracleDate.subDays od x = .ok r) : OracleDate.isValidDate r :=
  C02.od_addDays od (F64.neg x) r h

/-- `OD.sub_ts` (`oracle::Date − Timestamp`). -/
theorem od_subTimestamp (od ts : Int) (hod : OracleDate.isValidDate od) (hts : isValidTimestamp ts) :
    IntervalDT.isValidUsecs (Timestamp.subTimestamp od ts) := C02.ts_subTimestamp od ts hod.1 hts

/-- `OD.from_T` (`oracle::Date::try_from(Time)`: today's date with the time floored to the second) under ANY clock. -/
theorem od_fromTime (t : Int) (c : Clock) (v : Int) (ht : isValidTime t) (hm : 0 ≤ c.month) (hd : 0 ≤ c.day)
    (h : OracleDate.fromTime t c = .ok v) : OracleDate.isValidDate v :=
  Chk.bind_pure_valid (fun d hd' => C02.od_new d t (C02.date_tryFromYmd c.year c.month c.day d hd') ht) h

/-- `OD.now` under ANY clock. -/
theorem od_now (c : Clock) (v : Int) (hm : 0 ≤ c.month) (hd : 0 ≤ c.day) (hh : 0 ≤ c.hour) (hmi : 0 ≤ c.minute)
    (hs : 0 ≤ c.second) (h : OracleDate.now c = .ok v) : OracleDate.isValidDate v :=
  Chk.bind_valid (fun d => C02.date_tryFromYmd _ _ _ d)
    (fun d hdv => Chk.bind_pure_valid fun t ht =>
      C02.od_new d t hdv (C02.time_tryFromHms _ _ _ _ t hh hmi hs (Int.le_refl 0) ht)) h

example : OracleDate.isValidDate 253402300799000000 ∧ isValidTime 86399999999 ∧
    OracleDate.fromTime 86399999999 { year := 9999, month := 12, day := 31, hour := 0, minute := 0, second := 0, usec := 0 }
      = .ok 253402300799000000 ∧
    OracleDate.now { year := 2024, month := 2, day := 29, hour := 23, minute := 59, second := 59, usec := 999999 }
      = .ok 1709251199000000 ∧
    OracleDate.subDays 0 (F64.ofInt 1) = .ok (-86400000000) := by decide

/-! Field tuples: results that are not values of the six types but have a documented range (the kinds
    `year month day dow hour minute sec usec sign` of the protocol's range oracle, tools/catalog.py `valid`). -/

/-- `D.extract`: (year, month, day) of a valid date. -/
theorem date_extract_fields (d : Int) (hd : isValidDate d) :
    1 ≤ (Date.extract d).1 ∧ (Date.extract d).1 ≤ 9999 ∧ 1 ≤ (Date.extract d).2.1 ∧ (Date.extract d).2.1 ≤ 12 ∧
    1 ≤ (Date.extract d).2.2 ∧ (Date.extract d).2.2 ≤ 31 := by
  obtain ⟨⟨y1, y9, m1, m12, d1, dd⟩, _⟩ := C01.extract_roundtrip d hd
  exact ⟨y1, y9, m1, m12, d1, Int.le_trans dd (Lemmas.Cal.dim_range _ _).2⟩

/-- `D.dow` (1 = Sunday … 7 = Saturday): in 1..7, for every day number. -/
theorem date_dayOfWeek_range (d : Int) : 1 ≤ Date.dayOfWeek d ∧ Date.dayOfWeek d ≤ 7 := C01.dayOfWeek_range d

/-- `T.extract`: (hour, minute, second, microsecond) of a valid time of day. -/
theorem time_extract_fields (t : Int) (ht : isValidTime t) :
    0 ≤ (Time.extract t).1 ∧ (Time.extract t).1 ≤ 23 ∧ 0 ≤ (Time.extract t).2.1 ∧ (Time.extract t).2.1 ≤ 59 ∧
    0 ≤ (Time.extract t).2.2.1 ∧ (Time.extract t).2.2.1 ≤ 59 ∧ 0 ≤ (Time.extract t).2.2.2 ∧
    (Time.extract t).2.2.2 ≤ 999999 := by
  obtain ⟨a, b, c, d, e, f, g, h, _⟩ := C07.fromHms_extract t ht
  omega

/-- `YM.extract`: (sign, years, months) of every integer. -/
theorem ym_extract_fields (v : Int) :
    ((IntervalYM.extract v).1 = 1 ∨ (IntervalYM.extract v).1 = -1) ∧ 0 ≤ (IntervalYM.extract v).2.1 ∧
    0 ≤ (IntervalYM.extract v).2.2 ∧ (IntervalYM.extract v).2.2 ≤ 11 := by
  have h := C13.ym_extract_spec v
  generalize IntervalYM.extract v = e at h ⊢
  obtain ⟨sign, y, m⟩ := e
  dsimp only at h ⊢
  omega

/-- `DT.extract`: (sign, days, hours, minutes, seconds, microseconds) of every integer. -/
theorem dt_extract_fields (v : Int) :
    ((IntervalDT.extract v).1 = 1 ∨ (IntervalDT.extract v).1 = -1) ∧ 0 ≤ (IntervalDT.extract v).2.1 ∧
    0 ≤ (IntervalDT.extract v).2.2.1 ∧ (IntervalDT.extract v).2.2.1 ≤ 23 ∧
    0 ≤ (IntervalDT.extract v).2.2.2.1 ∧ (IntervalDT.extract v).2.2.2.1 ≤ 59 ∧
    0 ≤ (IntervalDT.extract v).2.2.2.2.1 ∧ (IntervalDT.extract v).2.2.2.2.1 ≤ 59 ∧
    0 ≤ (IntervalDT.extract v).2.2.2.2.2 ∧ (IntervalDT.extract v).2.2.2.2.2 ≤ 999999 := by
  have h := C13.dt_extract_spec v
  generalize IntervalDT.extract v = e at h ⊢
  obtain ⟨sign, d, hh, mi, s, us⟩ := e
  dsimp only at h ⊢
  omega

example : Date.extract 2932896 = (9999, 12, 31) ∧ Time.extract 86399999999 = (23, 59, 59, 999999) ∧
    IntervalYM.extract (-2136000000) = (-1, 178000000, 0) ∧
    IntervalDT.extract (-86399999999) = (-1, 0, 23, 59, 59, 999999) := by decide

end SqlDt.C02Rows
