/-
  C10  Truncation returns the latest unit boundary not after the value.
  All twelve units, on dates, timestamps and Oracle-style dates, against independent boundary predicates
  (`Spec.IsBoundary`): the crate code is the closed form (Lemmas/UnitsModel) and the closed form is the greatest
  boundary (Lemmas/UnitsSpec).  `SqlDt.C10B` holds the boundary predicates of the raw microsecond / day line (plain
  arithmetic) against which the sub-day units are stated.
-/
import SqlDt.Lemmas.UnitsModel
import SqlDt.Lemmas.UnitsSpec

namespace SqlDt.C10B

/-- Boundary predicates on the microsecond line. -/
def IsDayStart (b : Int) : Prop := b % 86400000000 = 0
def IsHourStart (b : Int) : Prop := b % 3600000000 = 0
def IsMinuteStart (b : Int) : Prop := b % 60000000 = 0

/-- `b` is the greatest instant satisfying `P` that is not later than `x`. -/
def GreatestLE (P : Int → Prop) (x b : Int) : Prop := P b ∧ b ≤ x ∧ ∀ b', P b' → b' ≤ x → b' ≤ b

/-- The generic facts about a greatest boundary (the definition is the one of Spec/Units again). -/
theorem greatest_unique (P : Int → Prop) (x b b' : Int) (h : GreatestLE P x b) (h' : GreatestLE P x b') : b = b' :=
  Lemmas.USpec.greatest_unique h h'

theorem greatest_idem (P : Int → Prop) (x b : Int) (h : GreatestLE P x b) : GreatestLE P b b :=
  Lemmas.USpec.greatest_idem h

theorem greatest_mono (P : Int → Prop) (x y bx bY : Int) (hxy : x ≤ y) (hx : GreatestLE P x bx) (hy : GreatestLE P y bY) :
    bx ≤ bY := Lemmas.USpec.greatest_mono hxy hx hy

/-- Monday: `day_of_week` is `(d + 4) % 7 + 1` with Sunday = 1 (`C01.dayOfWeek_eq`), so Monday is the residue 1. -/
def IsMonday (d : Int) : Prop := (d + 4) % 7 = 1

example : GreatestLE IsMonday 0 (-3) ∧ Date.truncIsoWeek 0 = .ok (-3) ∧ isValidDate 0 := by
  refine ⟨?_, by decide, by decide⟩
  unfold GreatestLE IsMonday
  exact ⟨by omega, by omega, fun b' h1 h2 => by omega⟩

end SqlDt.C10B

namespace SqlDt.C10
open SqlDt Gen Spec

/-- DATE TRUNCATION, every unit, every real date of years 1..9999: the crate returns the GREATEST unit boundary not after
    the date (boundaries by the independent per-unit predicates `Spec.IsBoundary`: 1 January of a year ≡ 1 mod 100, the
    Monday that starts the ISO year, day 1/8/15/22/29 of the month, …) when that boundary is representable, and
    `DateOutOfRange` otherwise. -/
theorem date_trunc (u : TUnit) (y m d : Int) (h : ValidYMD y m d) :
    Date.trunc u (dayNumber y m d) = inRangeDay (truncOf u (y, m, d) (dayNumber y m d)) ∧
    Spec.GreatestLE (IsBoundary u) (dayNumber y m d) (truncOf u (y, m, d) (dayNumber y m d)) :=
  ⟨Lemmas.date_trunc_eq u y m d h, Lemmas.truncOf_greatest u y m d h.2.2⟩

/-- 0001-01-01 (a Monday, first day of a century) starts every unit except the Sunday week … -/
theorem min_is_boundary (u : TUnit) (hu : u ≠ .sundayStartWeek) : IsBoundary u MIN_DAY := by
  refine ⟨1, 1, 1, by decide, by decide, ?_⟩
  cases u
  case sundayStartWeek => exact absurd rfl hu
  case isoYear => exact ⟨by decide, 1, by decide, by decide⟩
  all_goals decide

/-- … hence truncation NEVER fails for the other eleven units (the Sunday week: `date_trunc_sundayWeek_fails_iff'`). -/
theorem date_trunc_ok (u : TUnit) (hu : u ≠ .sundayStartWeek) (y m d : Int) (h : ValidYMD y m d) :
    Date.trunc u (dayNumber y m d) = .ok (truncOf u (y, m, d) (dayNumber y m d)) := by
  obtain ⟨he, hb, hle, hg⟩ := date_trunc u y m d h
  have hr := Lemmas.dayNumber_range y m d h
  have hmin := hg MIN_DAY (min_is_boundary u hu) (by unfold MIN_DAY; omega)
  unfold MIN_DAY at hmin
  exact he.trans (Lemmas.UM.ok_eq_inRange _ (by omega)).symm

/-- The crate's result is never after the date, and is a boundary. -/
theorem date_trunc_le (u : TUnit) (y m d b : Int) (h : ValidYMD y m d) (hb : Date.trunc u (dayNumber y m d) = .ok b) :
    b ≤ dayNumber y m d ∧ IsBoundary u b := by
  obtain ⟨he, hbd, hle, _⟩ := date_trunc u y m d h
  cases Lemmas.UM.eq_of_inRangeDay (he ▸ hb)
  exact ⟨hle, hbd⟩

theorem date_trunc_mono (u : TUnit) (y m d y' m' d' b b' : Int) (h : ValidYMD y m d) (h' : ValidYMD y' m' d')
    (hle : dayNumber y m d ≤ dayNumber y' m' d')
    (hb : Date.trunc u (dayNumber y m d) = .ok b) (hb' : Date.trunc u (dayNumber y' m' d') = .ok b') : b ≤ b' := by
  cases Lemmas.UM.eq_of_inRangeDay (Lemmas.date_trunc_eq u y m d h ▸ hb)
  cases Lemmas.UM.eq_of_inRangeDay (Lemmas.date_trunc_eq u y' m' d' h' ▸ hb')
  exact Lemmas.truncOf_mono u y m d y' m' d' h.2.2 h'.2.2 hle

theorem date_trunc_idem (u : TUnit) (y m d y' m' d' : Int) (h : ValidYMD y m d) (h' : ValidYMD y' m' d')
    (hb : Date.trunc u (dayNumber y m d) = .ok (dayNumber y' m' d')) :
    Date.trunc u (dayNumber y' m' d') = .ok (dayNumber y' m' d') := by
  have hb2 := Lemmas.UM.eq_of_inRangeDay (Lemmas.date_trunc_eq u y m d h ▸ hb)
  rw [Lemmas.date_trunc_eq u y' m' d' h', Lemmas.truncOf_idem u y m d y' m' d' h.2.2 h'.2.2 hb2]
  exact (Lemmas.UM.ok_eq_inRange _ (Lemmas.dayNumber_range y' m' d' h')).symm

/-- TIMESTAMP TRUNCATION, every unit, every valid timestamp (`(y, m, d)` is the calendar date of its day, which says
    that it is one): date-sized units give that date's boundary at 00:00:00 (time of day cleared), hour/minute the top
    of the hour/minute. -/
theorem ts_trunc (u : TUnit) (x : Int) (y m d : Int) (h : ValidYMD y m d)
    (hd : dayNumber y m d = x / 86400000000) :
    Timestamp.trunc u x = truncTsOf u (y, m, d) x :=
  Lemmas.ts_trunc_eq u x y m d h hd

/-- Oracle-style dates truncate as timestamps (the result is a whole second, so the final floor is the identity). -/
theorem od_trunc (u : TUnit) (x : Int) : OracleDate.trunc u x = (Timestamp.trunc u x).map OracleDate.fromTimestamp :=
  Chk.bind_pure_eq_map _ _

example : ValidYMD 2015 6 15 ∧ Date.trunc .isoYear (dayNumber 2015 6 15) = .ok (dayNumber 2014 12 29) ∧
    Date.trunc .century (dayNumber 2000 6 1) = .ok (dayNumber 1901 1 1) ∧
    Date.trunc .monthStartWeek (dayNumber 2021 2 28) = .ok (dayNumber 2021 2 22) := by decide +kernel

/-! Sub-day units on timestamps, on the microsecond line. -/

theorem ts_trunc_day (ts : Int) : ∃ b, Timestamp.trunc .day ts = .ok b ∧ C10B.GreatestLE C10B.IsDayStart ts b := by
  refine ⟨Timestamp.new (ts / 86400000000) 0, Timestamp.trunc_eq .day ts, ?_⟩
  unfold C10B.GreatestLE C10B.IsDayStart Timestamp.new USECONDS_PER_DAY
  exact ⟨by omega, by omega, fun b' h1 h2 => by omega⟩

theorem ts_trunc_hour (ts : Int) : ∃ b, Timestamp.trunc .hour ts = .ok b ∧ C10B.GreatestLE C10B.IsHourStart ts b := by
  refine ⟨ts - ts % 3600000000, Timestamp.trunc_eq .hour ts, ?_⟩
  unfold C10B.GreatestLE C10B.IsHourStart
  exact ⟨by omega, by omega, fun b' h1 h2 => by omega⟩

theorem ts_trunc_minute (ts : Int) : ∃ b, Timestamp.trunc .minute ts = .ok b ∧ C10B.GreatestLE C10B.IsMinuteStart ts b := by
  refine ⟨ts - ts % 60000000, Timestamp.trunc_eq .minute ts, ?_⟩
  unfold C10B.GreatestLE C10B.IsMinuteStart
  exact ⟨by omega, by omega, fun b' h1 h2 => by omega⟩

/-- The Sunday-week truncation fails only for the six dates 0001-01-01 .. 0001-01-06 (0001-01-07 is a Sunday). -/
theorem date_trunc_sundayWeek_fails_iff' (d : Int) (hd : isValidDate d) :
    (∃ e, Date.truncSundayStartWeek d = .error e) ↔ d < -719162 + 6 := by
  have h := (isValidDate_iff d).1 hd
  unfold Date.truncSundayStartWeek
  rw [C01.dayOfWeek_eq, Date.subDays_eq, C01.tryFromDays_spec]
  exact ⟨fun ⟨_, he⟩ => by have := (Chk.gate_eq_error.1 he).1; omega, fun _ => ⟨_, if_neg (by omega)⟩⟩

end SqlDt.C10
