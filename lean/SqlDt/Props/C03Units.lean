/-
  C03 (continuation): truncation and rounding never panic for valid receivers – corollaries of the closed forms of
  C10/C11 (their results are a value or `DateOutOfRange`, never the model's `Panic`, which is what an out-of-bounds
  table index, a failed `unwrap` or an arithmetic overflow in the crate is mapped to); adding months never panics for
  any receiver, because it ends in `try_from_ymd`.
-/
import SqlDt.Props.C02
import SqlDt.Props.C03
namespace SqlDt.C03

/-- `Date::trunc_*`, all 12 units, every valid date. -/
theorem date_trunc_no_panic (u : TUnit) (d : Int) (hd : isValidDate d) : Date.trunc u d ≠ .error .Panic :=
  Lemmas.dayGate_np (Lemmas.date_trunc_gate u d hd)

/-- `Date::round_*`, all 12 units, every valid date (the recorded deviation D1 included: it returns a value). -/
theorem date_round_no_panic (u : TUnit) (d : Int) (hd : isValidDate d) : Date.round u d ≠ .error .Panic :=
  Lemmas.dayGate_np (Lemmas.date_round_gate u d hd)

/-- `Timestamp::trunc_*`, all 12 units, every valid timestamp. -/
theorem ts_trunc_no_panic (u : TUnit) (x : Int) (hx : isValidTimestamp x) : Timestamp.trunc u x ≠ .error .Panic :=
  Lemmas.tsGate_np (Lemmas.ts_trunc_gate u x hx)

/-- Oracle-style dates truncate through the timestamp. -/
theorem od_trunc_no_panic (u : TUnit) (x : Int) (hx : isValidTimestamp x) : OracleDate.trunc u x ≠ .error .Panic :=
  C10.od_trunc u x ▸ Chk.map_ne_panic (ts_trunc_no_panic u x hx)

/-- `Timestamp::round_*`, all 12 units, every valid timestamp. -/
theorem ts_round_no_panic (u : TUnit) (x : Int) (hx : isValidTimestamp x) : Timestamp.round u x ≠ .error .Panic :=
  Lemmas.tsGate_np (Lemmas.ts_round_gate u x hx)

/-- Oracle-style dates round through the timestamp. -/
theorem od_round_no_panic (u : TUnit) (x : Int) (hx : isValidTimestamp x) : OracleDate.round u x ≠ .error .Panic :=
  C11.od_round u x ▸ Chk.map_ne_panic (ts_round_no_panic u x hx)

/-- Adding months to ANY day number with ANY integer offset: the last step is `try_from_ymd`. -/
theorem date_addMonths_no_panic (d k : Int) : Date.addIntervalYmInternal d k ≠ .error .Panic :=
  tryFromYmd_no_panic _ _ _

theorem ts_addMonths_no_panic (x k : Int) : Timestamp.addIntervalYm x k ≠ .error .Panic :=
  Chk.bind_pure_ne_panic (date_addMonths_no_panic _ k)

end SqlDt.C03
