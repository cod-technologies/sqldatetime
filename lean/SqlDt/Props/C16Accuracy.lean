/-
  C16 (continuation): adding fractional days rounds to the nearest second.  Statements over ℚ in the vocabulary of
  Lemmas/FloatValue (`F64.val`, `roundHalfAwayQ`) and `roundSecQ` (Lemmas/AccuracyDays); proofs in Lemmas/AccuracyMain.
-/
import SqlDt.Lemmas.AccuracyMain
namespace SqlDt.C16

/-- `round_to_second` is the nearest multiple of one second (10^6 µs), ties away from zero. -/
theorem roundToSecond_nearest (u : Int) :
    OracleDate.roundToSecond u = 1000000 * roundHalfAwayQ ((u : ℚ) / 1000000) :=
  Accuracy.roundToSecond_spec u

/-- `oracle::Date::add_days(od, x)` is the C08 result rounded to the nearest second: with `q` the
    double-precision offset (`|q − p| ≤ 2^-53·|p|`, `p = x·86400·10^6`) and `t = od + round(q)`, the call returns
    `roundSecQ t` when both `t` and `roundSecQ t` are valid timestamps, and `DateOutOfRange` otherwise
    (or `NumericOverflow` when the double product overflowed). -/
theorem od_addDays_accuracy (od : Int) (hod : isValidTimestamp od) (s : Bool) (m : Nat) (e : Int) :
    (∃ q : ℚ, |q - F64.val (.fin s m e) * 86400000000| ≤ 2 ^ (-53 : Int) * |F64.val (.fin s m e) * 86400000000| ∧
      OracleDate.addDays od (.fin s m e) =
        if isValidTimestamp (od + roundHalfAwayQ q) ∧ isValidTimestamp (roundSecQ (od + roundHalfAwayQ q))
        then .ok (roundSecQ (od + roundHalfAwayQ q)) else .error .DateOutOfRange) ∨
    (OracleDate.addDays od (.fin s m e) = .error .NumericOverflow ∧
      (2 : ℚ) ^ (1023 : Int) ≤ |F64.val (.fin s m e) * 86400000000|) :=
  Accuracy.od_addDays_accuracy od hod s m e

/-- A returned Oracle date is a whole second within half a second of `od + round(q)`. -/
theorem od_addDays_ok (od : Int) (hod : isValidTimestamp od) (s : Bool) (m : Nat) (e : Int) (r : Int)
    (h : OracleDate.addDays od (.fin s m e) = .ok r) :
    ∃ q : ℚ, |q - F64.val (.fin s m e) * 86400000000| ≤ 2 ^ (-53 : Int) * |F64.val (.fin s m e) * 86400000000| ∧
      r = roundSecQ (od + roundHalfAwayQ q) ∧ isValidTimestamp (od + roundHalfAwayQ q) ∧ isValidTimestamp r ∧
      |(r : ℚ) - ((od + roundHalfAwayQ q : Int) : ℚ)| ≤ 500000 :=
  Accuracy.od_addDays_ok od hod s m e r h

end SqlDt.C16
