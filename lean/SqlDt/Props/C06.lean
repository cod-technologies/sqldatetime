/-
  C06  Format then parse with the same lossless picture returns the original value.
  Here the numeric core: the digits a field is rendered with are read back to the same number.  The theorem for all
  lossless pictures is in Props/C06Lossless.lean, the serde pictures under the output cap in Props/C06Serde.lean.
-/
import SqlDt.Lemmas.Digits
import SqlDt.Model.Serde
namespace SqlDt.C06
open Parser

/-- Reading back the decimal digits of `n` gives `n` (the digit fold of `parse_number`). -/
theorem foldr_digitsRev : ∀ (f v : Nat), v < 10 ^ f →
    (digitsRev f v).foldr (fun d acc => acc * 10 + (Int.ofNat d - 48)) 0 = Int.ofNat v := by
  intro f
  induction f with
  | zero => intro v h; simp at h; subst h; simp [digitsRev]
  | succ f ih =>
    intro v h
    simp only [digitsRev]
    by_cases h10 : v ≥ 10
    · simp only [h10, ↓reduceIte, List.foldr_cons]
      have hp : 10 ^ (f + 1) = 10 * 10 ^ f := by rw [Nat.pow_succ]; omega
      rw [ih (v / 10) (by omega)]
      simp only [Int.ofNat_eq_natCast]
      omega
    · simp only [h10, ↓reduceIte, List.foldr_cons, List.foldr_nil, Int.ofNat_eq_natCast]; omega

theorem foldDigits_writeU32_nopad (v : Nat) (hv : v < 100000000000) :
    foldDigits (displayU32 (Int.ofNat v)) = Int.ofNat v := by
  unfold foldDigits displayU32
  rw [List.foldl_reverse]
  simpa using foldr_digitsRev 11 v (by omega)

theorem foldl_zeros (k : Nat) : (List.replicate k 48).foldl (fun acc d => acc * 10 + (Int.ofNat d - 48)) (0 : Int) = 0 := by
  induction k with
  | zero => rfl
  | succ k ih => rw [List.replicate_succ, List.foldl_cons]; simpa using ih

theorem foldDigits_zeros (k : Nat) (ds : Bytes) : foldDigits (List.replicate k 48 ++ ds) = foldDigits ds := by
  unfold foldDigits
  rw [List.foldl_append, foldl_zeros]

/-- A zero-padded field is read back as the number it was rendered from (every value the 11-digit loop can write; the
    model function takes any width, the crate's asserts `width < 11`). -/
theorem foldDigits_writeU32 (v w : Nat) (hv : v < 100000000000) :
    foldDigits (writeU32 (Int.ofNat v) w) = Int.ofNat v := by
  unfold writeU32
  rw [foldDigits_zeros]
  exact foldDigits_writeU32_nopad v hv

/-- format ∘ parse ∘ format through one picture -/
def roundTrips (ty : Ty) (v : Int) (pic : Bytes) : Bool :=
  match formatValue ty v pic none with
  | .ok text =>
    match parseValue ty text pic default with
    | .ok (v', _) => v' == v && (formatValue ty v' pic none == .ok text)
    | .error _ => false
  | .error _ => false

/-- Kernel-checked round trips at the ends of the ranges (for `.DT` the lower value is one above the minimum, for `.OD`
    only the maximum is there), through the serde pictures, and through two pictures with names in permuted order. -/
theorem boundary_round_trips :
    roundTrips .D (-719162) (Serde.picture .D) ∧ roundTrips .D 2932896 (Serde.picture .D) ∧
    roundTrips .TS (-62135596800000000) (Serde.picture .TS) ∧ roundTrips .TS 253402300799999999 (Serde.picture .TS) ∧
    roundTrips .T 0 (Serde.picture .T) ∧ roundTrips .T 86399999999 (Serde.picture .T) ∧
    roundTrips .YM 2136000000 (Serde.picture .YM) ∧ roundTrips .YM (-2136000000) (Serde.picture .YM) ∧
    roundTrips .DT 8640000000000000000 (Serde.picture .DT) ∧ roundTrips .DT (-8639999999999999999) (Serde.picture .DT) ∧
    roundTrips .OD 253402300799000000 (Serde.picture .OD) ∧
    roundTrips .TS 951782400123456 (bytesOf "Day, DD Month YYYY HH12:MI:SS.FF9 P.M.") ∧
    roundTrips .TS (-1) (bytesOf "FF7 SS MI HH24 DDD YYYY dy") := by
  decide +kernel

end SqlDt.C06
