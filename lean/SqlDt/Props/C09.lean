/-
  C09  Adding months keeps the day of month and time, or fails; month ends are exact.
-/
import SqlDt.Lemmas.Div
import SqlDt.Props.C01
namespace SqlDt.C09
open Gen Spec

/-- The two truncating-division branches of the carry compute floor division of the absolute month index:
    target = (t / 12, t mod 12 + 1) with t = 12·year + (month − 1) + k, for ALL integers. -/
theorem monthCarry_floor (year month k : Int) :
    Date.monthCarry year month k =
      ((12 * year + (month - 1) + k) / 12, (12 * year + (month - 1) + k) % 12 + 1) := by
  unfold Date.monthCarry MONTHS_PER_YEAR
  simp only []
  by_cases h1 : month + k > 12
  · simp only [h1, ↓reduceIte]
    rw [rdiv_nonneg_eq (by omega), rrem_nonneg_eq (by omega)]
    simp only [Prod.mk.injEq]; omega
  · simp only [h1, ↓reduceIte]
    by_cases h2 : month + k < 1
    · simp only [h2, ↓reduceIte]
      by_cases h3 : month + k = 0
      · rw [h3]; simp only [rdiv, rrem]; simp only [Prod.mk.injEq]; omega
      · rw [rdiv_neg_eq (by omega), rrem_neg_eq (by omega)]
        simp only [Prod.mk.injEq]; omega
    · simp only [h2, ↓reduceIte, Prod.mk.injEq]; omega

theorem monthCarry_month_range (year month k : Int) :
    1 ≤ (Date.monthCarry year month k).2 ∧ (Date.monthCarry year month k).2 ≤ 12 := by
  rw [monthCarry_floor year month k]; simp only; omega

/-- `month as i32 + interval.months()` and the carried year fit `i32`, for every offset in the interval range (the
    intermediates `new_month − 1` and `new_month / 12 − 1` are not stated). -/
theorem monthCarry_no_overflow (year month k : Int) (hy : 1 ≤ year ∧ year ≤ 9999) (hm : 1 ≤ month ∧ month ≤ 12)
    (hk : IntervalYM.isValidMonths k) :
    fitsI32 (month + k) ∧ fitsI32 (Date.monthCarry year month k).1 := by
  rw [IntervalYM.isValidMonths_iff] at hk
  rw [monthCarry_floor year month k, fitsI32_iff, fitsI32_iff]; omega

/-- Subtracting a year-month interval is adding its negation (Timestamp and OracleDate). -/
theorem ts_sub_eq_add_neg (ts i : Int) : Timestamp.subIntervalYm ts i = Timestamp.addIntervalYm ts (-i) := rfl
theorem od_sub_eq_add_neg (od i : Int) : OracleDate.subIntervalYm od i = OracleDate.addIntervalYm od (-i) := rfl

/-- On a timestamp the time of day is carried over unchanged: the result is the moved date at the same time. -/
theorem ts_addIntervalYm_eq (ts i : Int) :
    Timestamp.addIntervalYm ts i =
      (Date.addIntervalYmInternal (ts / 86400000000) i).map (fun d => Timestamp.new d (ts % 86400000000)) := by
  unfold Timestamp.addIntervalYm
  rw [Timestamp.extract_eq]
  exact Chk.bind_pure_eq_map _ _

theorem monthCarry_zero (year month : Int) (hm : 1 ≤ month ∧ month ≤ 12) :
    Date.monthCarry year month 0 = (year, month) := by
  rw [monthCarry_floor year month 0]; simp only [Prod.mk.injEq]; omega

theorem monthCarry_inverse (year month k : Int) (hm : 1 ≤ month ∧ month ≤ 12) :
    Date.monthCarry (Date.monthCarry year month k).1 (Date.monthCarry year month k).2 (-k) = (year, month) := by
  rw [monthCarry_floor _ _ (-k), monthCarry_floor year month k]
  simp only [Prod.mk.injEq]; omega

/-- Target of adding `k` months to (y, m): floor division of the absolute month index. -/
def targetYear (y m k : Int) : Int := (12 * y + (m - 1) + k) / 12
def targetMonth (y m k : Int) : Int := (12 * y + (m - 1) + k) % 12 + 1

/-- For every real date of years 1..9999 and every integer offset: same day of month in the month `k`
    months away; `DateOutOfRange` exactly when the target year leaves 1..9999, `InvalidDate` exactly when the target month
    has no such day (never clamped, never spilled into the next month). -/
theorem addMonths_spec (y m d k : Int) (h : ValidYMD y m d) :
    Date.addIntervalYmInternal (dayNumber y m d) k =
      if targetYear y m k < 1 ∨ targetYear y m k > 9999 then .error .DateOutOfRange
      else if d > dim (targetYear y m k) (targetMonth y m k) then .error .InvalidDate
      else .ok (dayNumber (targetYear y m k) (targetMonth y m k) d) := by
  obtain ⟨y1, y9, m1, m12, d1, dd⟩ := h
  have := Lemmas.Cal.dim_range y m
  unfold Date.addIntervalYmInternal
  rw [Lemmas.extract_dayNumber y m d ⟨m1, m12, d1, dd⟩]
  simp only []
  rw [monthCarry_floor y m k]
  exact C01.tryFromYmd_of_fields _ _ d (by omega) (by omega)

/-- The final day (28, 29, 30 or 31) of the date's own month; always a valid date. -/
theorem lastDayOfMonth_spec (y m d : Int) (h : ValidYMD y m d) :
    Date.lastDayOfMonth (dayNumber y m d) = dayNumber y m (dim y m) ∧ ValidYMD y m (dim y m) := by
  obtain ⟨y1, y9, m1, m12, d1, dd⟩ := h
  unfold Date.lastDayOfMonth
  rw [Lemmas.extract_dayNumber y m d ⟨m1, m12, d1, dd⟩]
  simp only []
  rw [Lemmas.daysOfMonth_eq _ _ ⟨m1, m12⟩]
  refine ⟨?_, y1, y9, m1, m12, by omega, Int.le_refl _⟩
  unfold dayNumber; omega

/-- On a timestamp the time of day is unchanged: the result is the same microsecond of the last day of the month. -/
theorem ts_lastDayOfMonth_spec (x y m d : Int) (h : ValidYMD y m d) (hd : dayNumber y m d = x / 86400000000) :
    Timestamp.lastDayOfMonth x = dayNumber y m (dim y m) * 86400000000 + x % 86400000000 := by
  obtain ⟨y1, y9, m1, m12, d1, dd⟩ := h
  unfold Timestamp.lastDayOfMonth
  rw [Timestamp.extract_eq]
  simp only []
  rw [← hd, Lemmas.extract_dayNumber y m d ⟨m1, m12, d1, dd⟩]
  simp only []
  rw [Lemmas.daysOfMonth_eq _ _ ⟨m1, m12⟩]
  unfold USECONDS_PER_DAY dayNumber at *
  omega

example : Date.monthCarry 2021 1 (-1) = (2020, 12) ∧ Date.monthCarry 2021 12 1 = (2022, 1) ∧
    Date.monthCarry 2021 6 (-18) = (2019, 12) ∧ Date.addIntervalYmInternal 18657 1 = .error .InvalidDate := by decide

/-- Whatever adding months returns is a valid date (its last step is `try_from_ymd`), for any integers. -/
theorem addMonths_ok_valid (d k v : Int) (h : Date.addIntervalYmInternal d k = .ok v) : isValidDate v :=
  C01.tryFromYmd_ok_valid _ _ _ v h

end SqlDt.C09
