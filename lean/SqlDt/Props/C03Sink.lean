/-
  C03 (continuation): formatting into a BOUNDED sink.  `Formatter::format(value, w)` takes any `fmt::Write`; the crate
  itself uses a 32-byte stack buffer for serde and `Display` adapters hand in arbitrary writers.  For EVERY capacity, every
  valid value of every type and every picture: the call returns exactly what the unbounded `String` sink would receive
  when that text fits, and a format error when it does not (or when the unbounded call fails) – never a panic, and never a
  truncated text reported as success.
-/
import SqlDt.Props.C03Format
namespace SqlDt.C03

/-- A sink of capacity `n` against the unbounded sink, for every valid value, type, picture and capacity. -/
theorem format_bounded (ty : Ty) (v : Int) (hv : ty.Valid v) (pic : Bytes) (n : Nat) :
    formatValue ty v pic (some n) =
      match formatValue ty v pic none with
      | .ok t => if t.length ≤ n then .ok t else .error .FormatError
      | .error e => .error e := by
  obtain ⟨c, ha, hfr, hneg⟩ := Lemmas.renders_exists ty v hv
  unfold formatValue
  cases ht : Lexer.tryNew pic with
  | error e => rfl
  | ok fields => exact Lemmas.format_sink_rel ty v c ha hfr hneg fields (Lemmas.tryNew_wf pic fields ht) n

/-- Whatever the sink's capacity, `format` never panics. -/
theorem format_bounded_no_panic (ty : Ty) (v : Int) (hv : ty.Valid v) (pic : Bytes) (cap : Option Nat) :
    formatValue ty v pic cap ≠ .error .Panic := by
  obtain ⟨c, hc⟩ := Lemmas.renders_exists ty v hv
  exact format_np_of_renders hc pic cap

/-- A text that was written is never a truncation: if the bounded call succeeds it returns the full text. -/
theorem format_bounded_ok (ty : Ty) (v : Int) (hv : ty.Valid v) (pic : Bytes) (n : Nat) (t : Bytes)
    (h : formatValue ty v pic (some n) = .ok t) : formatValue ty v pic none = .ok t ∧ t.length ≤ n := by
  rw [format_bounded ty v hv pic n] at h
  cases hf : formatValue ty v pic none with
  | error e => rw [hf] at h; cases h
  | ok t' =>
    rw [hf] at h
    obtain ⟨hl, rfl⟩ := Chk.gate_eq_ok.1 h
    exact ⟨rfl, hl⟩

-- non-vacuity: the hypotheses are met by the epoch date, whose `YYYY-MM-DD` rendering has ten bytes
example : Ty.Valid .D 0 := by decide

end SqlDt.C03
