/-
  C17  Date, timestamp and Oracle-style date agree on the same instant.
-/
import SqlDt.Lemmas.Div
namespace SqlDt.C17
open Gen

def midnight (d : Int) : Int := Timestamp.new d 0

theorem midnight_eq (d : Int) : midnight d = d * 86400000000 := Int.add_zero _

theorem date_midnight (d : Int) : Timestamp.date (midnight d) = d := by
  rw [Timestamp.date_eq, midnight_eq]; omega

theorem time_midnight (d : Int) : Timestamp.time (midnight d) = 0 := by
  rw [Timestamp.time_eq, midnight_eq]; omega

theorem extract_midnight (d : Int) : Timestamp.extract (midnight d) = (d, 0) := by
  rw [Timestamp.extract_eq, midnight_eq, Prod.mk.injEq]; omega

/-- Truncation through `Timestamp` at a date's midnight = truncation through `Date`, at midnight
    (all twelve units; an error on one side is the same error on the other). -/
theorem trunc_midnight (u : TUnit) (d : Int) :
    Timestamp.trunc u (midnight d) = (Date.trunc u d).map midnight := by
  have e : midnight d / 86400000000 = d := (Timestamp.date_eq _).symm.trans (date_midnight d)
  rw [Timestamp.trunc_eq]
  cases u
  case hour => exact congrArg Except.ok (by rw [midnight_eq]; omega)
  case minute => exact congrArg Except.ok (by rw [midnight_eq]; omega)
  all_goals exact e.symm ▸ rfl

/-- An Oracle-style operation is the timestamp operation followed by the floor to the second. -/
theorem od_trunc_eq (u : TUnit) (od : Int) :
    OracleDate.trunc u od = (Timestamp.trunc u od).map OracleDate.fromTimestamp :=
  Chk.bind_pure_eq_map _ _

theorem od_round_eq (u : TUnit) (od : Int) :
    OracleDate.round u od = (Timestamp.round u od).map OracleDate.fromTimestamp :=
  Chk.bind_pure_eq_map _ _

theorem od_lastDay_eq (od : Int) :
    OracleDate.lastDayOfMonth od = OracleDate.fromTimestamp (Timestamp.lastDayOfMonth od) := rfl

theorem lastDay_midnight (d : Int) : Timestamp.lastDayOfMonth (midnight d) = midnight (Date.lastDayOfMonth d) := by
  unfold Timestamp.lastDayOfMonth Date.lastDayOfMonth
  rw [extract_midnight, midnight_eq, midnight_eq]
  simp only [USECONDS_PER_DAY]
  omega

/-- Adding months through `Timestamp` at midnight = through `Date` (the public `Date::add_interval_ym`
    returns exactly this timestamp). -/
theorem addYm_midnight (d i : Int) :
    Timestamp.addIntervalYm (midnight d) i = (Date.addIntervalYmInternal d i).map midnight := by
  unfold Timestamp.addIntervalYm
  rw [extract_midnight]
  exact Chk.bind_pure_eq_map _ _

/-- `midnight` is an order embedding of dates into timestamps (the crate's mixed comparisons of a `Date` with a
    `Timestamp` compare `midnight d` with `ts`). -/
theorem midnight_lt_iff (a b : Int) : midnight a < midnight b ↔ a < b := by
  rw [midnight_eq, midnight_eq]; omega

theorem midnight_inj (a b : Int) : midnight a = midnight b ↔ a = b := by
  rw [midnight_eq, midnight_eq]; omega

/-- A date is not after a timestamp exactly when it is not after the timestamp's own date. -/
theorem midnight_le_ts_iff (d ts : Int) : midnight d ≤ ts ↔ d ≤ Timestamp.date ts := by
  rw [Timestamp.date_eq, midnight_eq]; omega

theorem shiftHalfDay_midnight (d : Int) : Timestamp.shiftHalfDay (midnight d) = .ok d := by
  rw [Timestamp.shiftHalfDay_eq, ← Timestamp.date_eq, ← Timestamp.time_eq, date_midnight, time_midnight]; rfl

/-- Rounding through `Timestamp` at a date's midnight = rounding through `Date`, at midnight: all twelve units,
    errors included (this is agreement between the types; what the rounded value IS, is C11). -/
theorem round_midnight (u : TUnit) (d : Int) :
    Timestamp.round u (midnight d) = (Date.round u d).map midnight := by
  have e : midnight d / 86400000000 = d := (Timestamp.date_eq _).symm.trans (date_midnight d)
  have t0 : Time.extract 0 = (0, 0, 0, 0) := by decide
  cases u
  case hour => simp only [Timestamp.round, time_midnight, date_midnight, t0]; rfl
  case minute => simp only [Timestamp.round, time_midnight, date_midnight, t0]; rfl
  all_goals
    rw [Timestamp.round_eq, shiftHalfDay_midnight, e]
    · rfl
    · decide

example : midnight 0 = 0 ∧ midnight (-1) = -86400000000 ∧ Timestamp.trunc .hour (midnight 5) = .ok (midnight 5) := by decide

/-- The difference of two dates taken through their midnight timestamps (`Date::sub_timestamp` against a midnight,
    `Timestamp::sub_date`) is the day difference `Date::sub_date` in microseconds. -/
theorem sub_midnight (a b : Int) :
    Timestamp.subTimestamp (midnight a) (midnight b) = Date.subDate a b * 86400000000 ∧
    Timestamp.subDate (midnight a) b = Date.subDate a b * 86400000000 := by
  unfold Timestamp.subDate Timestamp.subTimestamp Date.subDate
  rw [← midnight, midnight_eq, midnight_eq]
  constructor <;> omega

/-- Adding `k` days to a date = adding the interval of `k` days to its midnight timestamp, errors included (the proof
    uses neither hypothesis). -/
theorem addDays_midnight (d k : Int) (hd : isValidDate d) (_hk : fitsI32 k) :
    (Date.addDays d k).map midnight = Timestamp.addIntervalDt (midnight d) (k * 86400000000) := by
  rw [Date.addDays_eq, Timestamp.addIntervalDt_eq,
    show midnight d + k * 86400000000 = midnight (d + k) by rw [midnight_eq, midnight_eq]; omega]
  exact Date.tryFromDays_midnight (d + k)

end SqlDt.C17
