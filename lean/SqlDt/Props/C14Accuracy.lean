/-
  C14 (continuation): scaling computes the real product/quotient to double precision (relative error ≤ 2^-52) and
  truncates toward zero.  Statements over ℚ in the vocabulary of Lemmas/FloatValue (`F64.val`, `truncQ`, `clamp`);
  proofs in Lemmas/AccuracyMain.
-/
import SqlDt.Lemmas.AccuracyMain
namespace SqlDt.C14

/-- `x as iN` on a finite double truncates its exact value toward zero and saturates. -/
theorem cast_value (lo hi : Int) (s : Bool) (m : Nat) (e : Int) :
    F64.toIntSat lo hi (.fin s m e) = clamp lo hi (truncQ (F64.val (.fin s m e))) :=
  Accuracy.cast_value lo hi s m e

/-- Round-to-nearest-even of the positive rational `num/den` is within half a unit in the last
    place, unconditionally. -/
theorem rounding_half_ulp_rat (num den m : Nat) (e : Int) (hn : 0 < num) (hd : 0 < den)
    (h : F64.roundPos num den = some (m, e)) :
    |(m : ℚ) * 2 ^ e - (num : ℚ) / den| ≤ 2 ^ (e - 1) :=
  Accuracy.rounding_half_ulp num den m e hn hd h

/-- The relative error of one rounding is at most `u' = 2^-53/(1+2^-53)` whenever the exact value is in the normal
    range `≥ 2^-1022`. -/
theorem rounding_relative_normal (num den m : Nat) (e : Int) (hn : 0 < num) (hd : 0 < den)
    (h : F64.roundPos num den = some (m, e)) (hx : (2 : ℚ) ^ (-1022 : Int) ≤ (num : ℚ) / den) :
    |(m : ℚ) * 2 ^ e - (num : ℚ) / den| ≤ (2 ^ (-53 : Int) / (1 + 2 ^ (-53 : Int))) * ((num : ℚ) / den) :=
  Accuracy.rounding_relative_normal num den m e hn hd h hx

/-- Every integer `|v| ≤ 2^63` converts to a finite double within relative error `u'`, and
    without error if `|v| ≤ 2^53`. -/
theorem conversion_accuracy (v : Int) (hv : v.natAbs ≤ 2 ^ 63) :
    (∃ (s : Bool) (m : Nat) (e : Int), F64.ofInt v = .fin s m e) ∧
    |F64.val (F64.ofInt v) - (v : ℚ)| ≤ (2 ^ (-53 : Int) / (1 + 2 ^ (-53 : Int))) * |(v : ℚ)| ∧
    (v.natAbs ≤ 2 ^ 53 → F64.val (F64.ofInt v) = (v : ℚ)) :=
  Accuracy.conversion_accuracy v hv

/-- For every valid day-time interval `v` (microseconds) and every finite double `x`,
    with `p = v·x` the exact real product: either there is a rational `q` with `|q − p| ≤ 2^-52·|p|` (the product
    computed to double precision) such that the call returns `q` truncated toward zero to whole microseconds when that
    is inside the interval range and `IntervalOutOfRange` otherwise; or the double product overflowed to `±∞`
    (`NumericOverflow`), which needs `|p| ≥ 2^1023/(1+u')`. -/
theorem dt_mul_accuracy (v : Int) (hv : IntervalDT.isValidUsecs v) (s : Bool) (m : Nat) (e : Int) :
    (∃ q : ℚ, |q - (v : ℚ) * F64.val (.fin s m e)| ≤ 2 ^ (-52 : Int) * |(v : ℚ) * F64.val (.fin s m e)| ∧
      IntervalDT.mulF64 v (.fin s m e) =
        if IntervalDT.isValidUsecs (truncQ q) then .ok (truncQ q) else .error .IntervalOutOfRange) ∨
    (IntervalDT.mulF64 v (.fin s m e) = .error .NumericOverflow ∧
      (2 : ℚ) ^ (1023 : Int) ≤ (1 + F64.u') * |(v : ℚ) * F64.val (.fin s m e)|) :=
  Accuracy.dt_mul_accuracy v hv s m e

/-- In the normal range (`|p| ≥ 2^-1021`) the witness is the computed double `fl(fl(v)·x)` itself. -/
theorem dt_mul_accuracy_normal (v : Int) (hv : IntervalDT.isValidUsecs v) (s : Bool) (m : Nat) (e : Int)
    (hn : (2 : ℚ) ^ (-1021 : Int) ≤ |(v : ℚ) * F64.val (.fin s m e)|) :
    (|F64.val (F64.mul (F64.ofInt v) (.fin s m e)) - (v : ℚ) * F64.val (.fin s m e)| ≤
        2 ^ (-52 : Int) * |(v : ℚ) * F64.val (.fin s m e)| ∧
      IntervalDT.mulF64 v (.fin s m e) =
        if IntervalDT.isValidUsecs (truncQ (F64.val (F64.mul (F64.ofInt v) (.fin s m e))))
        then .ok (truncQ (F64.val (F64.mul (F64.ofInt v) (.fin s m e)))) else .error .IntervalOutOfRange) ∨
    (IntervalDT.mulF64 v (.fin s m e) = .error .NumericOverflow ∧
      (2 : ℚ) ^ (1023 : Int) ≤ (1 + F64.u') * |(v : ℚ) * F64.val (.fin s m e)|) :=
  Accuracy.dt_mul_accuracy_normal v hv s m e hn

/-- The form of the property text: a returned value is the double-precision product truncated toward zero. -/
theorem dt_mul_ok (v : Int) (hv : IntervalDT.isValidUsecs v) (s : Bool) (m : Nat) (e : Int) (r : Int)
    (h : IntervalDT.mulF64 v (.fin s m e) = .ok r) :
    ∃ q : ℚ, |q - (v : ℚ) * F64.val (.fin s m e)| ≤ 2 ^ (-52 : Int) * |(v : ℚ) * F64.val (.fin s m e)| ∧
      r = truncQ q ∧ IntervalDT.isValidUsecs r :=
  Accuracy.dt_mul_ok v hv s m e r h

/-- The error cases: out of range only if the truncated double-precision product is outside the interval range;
    overflow only if the exact product is astronomically large. No other error occurs for a finite multiplier. -/
theorem dt_mul_err (v : Int) (hv : IntervalDT.isValidUsecs v) (s : Bool) (m : Nat) (e : Int) (err : Err)
    (h : IntervalDT.mulF64 v (.fin s m e) = .error err) :
    (err = .IntervalOutOfRange ∧ ∃ q : ℚ,
      |q - (v : ℚ) * F64.val (.fin s m e)| ≤ 2 ^ (-52 : Int) * |(v : ℚ) * F64.val (.fin s m e)| ∧
      ¬ IntervalDT.isValidUsecs (truncQ q)) ∨
    (err = .NumericOverflow ∧ (2 : ℚ) ^ (1023 : Int) ≤ (1 + F64.u') * |(v : ℚ) * F64.val (.fin s m e)|) :=
  Accuracy.dt_mul_err v hv s m e err h

/-- The same for day-time interval ÷ double (`x ≠ 0`; a zero divisor gives `DivideByZero`, `C14.dt_div_zero`). -/
theorem dt_div_accuracy (v : Int) (hv : IntervalDT.isValidUsecs v) (s : Bool) (m : Nat) (e : Int) (hm : m ≠ 0) :
    (∃ q : ℚ, |q - (v : ℚ) / F64.val (.fin s m e)| ≤ 2 ^ (-52 : Int) * |(v : ℚ) / F64.val (.fin s m e)| ∧
      IntervalDT.divF64 v (.fin s m e) =
        if IntervalDT.isValidUsecs (truncQ q) then .ok (truncQ q) else .error .IntervalOutOfRange) ∨
    (IntervalDT.divF64 v (.fin s m e) = .error .NumericOverflow ∧
      (2 : ℚ) ^ (1023 : Int) ≤ (1 + F64.u') * |(v : ℚ) / F64.val (.fin s m e)|) :=
  Accuracy.dt_div_accuracy v hv s m e hm

theorem dt_div_ok (v : Int) (hv : IntervalDT.isValidUsecs v) (s : Bool) (m : Nat) (e : Int) (hm : m ≠ 0) (r : Int)
    (h : IntervalDT.divF64 v (.fin s m e) = .ok r) :
    ∃ q : ℚ, |q - (v : ℚ) / F64.val (.fin s m e)| ≤ 2 ^ (-52 : Int) * |(v : ℚ) / F64.val (.fin s m e)| ∧
      r = truncQ q ∧ IntervalDT.isValidUsecs r :=
  Accuracy.dt_div_ok v hv s m e hm r h

/-- The same for year-month interval × double (months; the cast is `as i32`). -/
theorem ym_mul_accuracy (v : Int) (hv : IntervalYM.isValidMonths v) (s : Bool) (m : Nat) (e : Int) :
    (∃ q : ℚ, |q - (v : ℚ) * F64.val (.fin s m e)| ≤ 2 ^ (-52 : Int) * |(v : ℚ) * F64.val (.fin s m e)| ∧
      IntervalYM.mulF64 v (.fin s m e) =
        if IntervalYM.isValidMonths (truncQ q) then .ok (truncQ q) else .error .IntervalOutOfRange) ∨
    (IntervalYM.mulF64 v (.fin s m e) = .error .NumericOverflow ∧
      (2 : ℚ) ^ (1023 : Int) ≤ (1 + F64.u') * |(v : ℚ) * F64.val (.fin s m e)|) :=
  Accuracy.ym_mul_accuracy v hv s m e

theorem ym_mul_ok (v : Int) (hv : IntervalYM.isValidMonths v) (s : Bool) (m : Nat) (e : Int) (r : Int)
    (h : IntervalYM.mulF64 v (.fin s m e) = .ok r) :
    ∃ q : ℚ, |q - (v : ℚ) * F64.val (.fin s m e)| ≤ 2 ^ (-52 : Int) * |(v : ℚ) * F64.val (.fin s m e)| ∧
      r = truncQ q ∧ IntervalYM.isValidMonths r :=
  Accuracy.ym_mul_ok v hv s m e r h

/-- The same for year-month interval ÷ double (`x ≠ 0`). -/
theorem ym_div_accuracy (v : Int) (hv : IntervalYM.isValidMonths v) (s : Bool) (m : Nat) (e : Int) (hm : m ≠ 0) :
    (∃ q : ℚ, |q - (v : ℚ) / F64.val (.fin s m e)| ≤ 2 ^ (-52 : Int) * |(v : ℚ) / F64.val (.fin s m e)| ∧
      IntervalYM.divF64 v (.fin s m e) =
        if IntervalYM.isValidMonths (truncQ q) then .ok (truncQ q) else .error .IntervalOutOfRange) ∨
    (IntervalYM.divF64 v (.fin s m e) = .error .NumericOverflow ∧
      (2 : ℚ) ^ (1023 : Int) ≤ (1 + F64.u') * |(v : ℚ) / F64.val (.fin s m e)|) :=
  Accuracy.ym_div_accuracy v hv s m e hm

theorem ym_div_ok (v : Int) (hv : IntervalYM.isValidMonths v) (s : Bool) (m : Nat) (e : Int) (hm : m ≠ 0) (r : Int)
    (h : IntervalYM.divF64 v (.fin s m e) = .ok r) :
    ∃ q : ℚ, |q - (v : ℚ) / F64.val (.fin s m e)| ≤ 2 ^ (-52 : Int) * |(v : ℚ) / F64.val (.fin s m e)| ∧
      r = truncQ q ∧ IntervalYM.isValidMonths r :=
  Accuracy.ym_div_ok v hv s m e hm r h

end SqlDt.C14
