/-
  C13  Intervals decompose into sign and fields uniquely and negate symmetrically.
-/
import SqlDt.Lemmas.Div
namespace SqlDt.C13
open Gen

/-- value = sign × (years × 12 + months), months in 0..11, years ≥ 0, sign = −1 exactly for negative values. -/
theorem ym_extract_spec (v : Int) :
    let (sign, y, m) := IntervalYM.extract v
    (sign = if v < 0 then -1 else 1) ∧ 0 ≤ y ∧ 0 ≤ m ∧ m < 12 ∧ v = sign * (y * 12 + m) := by
  unfold IntervalYM.extract MONTHS_PER_YEAR
  by_cases h : v < 0 <;> simp only [h, ↓reduceIte] <;> refine ⟨trivial, ?_, ?_, ?_, ?_⟩ <;> omega

/-- The decomposition of a non-zero value is unique (zero has either sign). -/
theorem ym_decomp_unique (s y m s' y' m' : Int) (hs : s = 1 ∨ s = -1) (hs' : s' = 1 ∨ s' = -1)
    (hy : 0 ≤ y) (hy' : 0 ≤ y') (hm : 0 ≤ m ∧ m < 12) (hm' : 0 ≤ m' ∧ m' < 12)
    (hne : y * 12 + m ≠ 0) (h : s * (y * 12 + m) = s' * (y' * 12 + m')) : s = s' ∧ y = y' ∧ m = m' := by
  rcases hs with rfl | rfl <;> rcases hs' with rfl | rfl <;> omega

/-- For unsigned `y`, `m` (the crate's `u32`s; the statement does not assume it) the constructor accepts exactly the
    tuples whose value lies in the range and month < 12; it reports the year-range error first. -/
theorem ym_tryFromYm_spec (y m : Int) :
    IntervalYM.tryFromYm y m =
      if y > 178000000 ∨ (y = 178000000 ∧ m ≠ 0) then .error .IntervalOutOfRange
      else if m ≥ 12 then .error .InvalidMonth
      else .ok (y * 12 + m) := by
  unfold IntervalYM.tryFromYm INTERVAL_MAX_YEAR MONTHS_PER_YEAR
  by_cases h1 : y ≥ 178000000 ∧ (y ≠ 178000000 ∨ m ≠ 0)
  · have : y > 178000000 ∨ (y = 178000000 ∧ m ≠ 0) := by omega
    simp [h1, this]
  · have : ¬ (y > 178000000 ∨ (y = 178000000 ∧ m ≠ 0)) := by omega
    simp [h1, this]

theorem ym_isValidYm_iff (y m : Int) (hy : 0 ≤ y) (hm : 0 ≤ m) :
    IntervalYM.isValidYm y m = true ↔ (m < 12 ∧ y * 12 + m ≤ 2136000000) := by
  unfold IntervalYM.isValidYm INTERVAL_MAX_YEAR MONTHS_PER_YEAR
  split
  · simp; omega
  · split <;> simp <;> omega

/-- `extract` recovers `(+, y, m)` from the value `y·12 + m` the constructor computes. -/
theorem ym_extract_fromYm (y m : Int) (hy : 0 ≤ y) (hm : 0 ≤ m) (hm12 : m < 12) :
    IntervalYM.extract (y * 12 + m) = (1, y, m) := by
  unfold IntervalYM.extract MONTHS_PER_YEAR
  have : ¬ (y * 12 + m < 0) := by omega
  simp only [this, ↓reduceIte, Prod.mk.injEq, true_and]; omega

theorem ym_tryFromYm_valid (y m v : Int) (hy : 0 ≤ y) (hm : 0 ≤ m) (h : IntervalYM.tryFromYm y m = .ok v) :
    IntervalYM.isValidMonths v := by
  simp only [ym_tryFromYm_spec, Chk.ite_error_eq_ok, Except.ok.injEq] at h
  rw [IntervalYM.isValidMonths_iff]; omega

theorem ym_negate_involutive (v : Int) : IntervalYM.negate (IntervalYM.negate v) = v := by
  unfold IntervalYM.negate; omega

theorem ym_negate_valid (v : Int) (h : IntervalYM.isValidMonths v) : IntervalYM.isValidMonths (IntervalYM.negate v) := by
  unfold IntervalYM.isValidMonths IntervalYM.negate at *; omega

/-- The signed accessors agree with the decomposition: year = sign × years, month = sign × months. -/
theorem ym_accessors (v : Int) :
    IntervalYM.year v = (IntervalYM.extract v).1 * (IntervalYM.extract v).2.1 ∧
    IntervalYM.month v = (IntervalYM.extract v).1 * (IntervalYM.extract v).2.2 := by
  unfold IntervalYM.year IntervalYM.month IntervalYM.extract MONTHS_PER_YEAR
  by_cases h : v < 0
  · simp only [h, ↓reduceIte, rdiv_neg_eq h, rrem_neg_eq h]; omega
  · have h' : 0 ≤ v := by omega
    simp only [h, ↓reduceIte, rdiv_nonneg_eq h', rrem_nonneg_eq h']; omega

theorem ym_tryFromMonths_spec (v : Int) :
    IntervalYM.tryFromMonths v = if -2136000000 ≤ v ∧ v ≤ 2136000000 then .ok v else .error .IntervalOutOfRange := by
  simp only [IntervalYM.tryFromMonths, IntervalYM.isValidMonths_iff]

/-- value = sign × (days·86400e6 + hours·3600e6 + minutes·60e6 + seconds·1e6 + µs) with the fields in range. -/
theorem dt_extract_spec (v : Int) :
    let (sign, d, h, mi, s, us) := IntervalDT.extract v
    (sign = if v < 0 then -1 else 1) ∧ 0 ≤ d ∧ 0 ≤ h ∧ h < 24 ∧ 0 ≤ mi ∧ mi < 60 ∧ 0 ≤ s ∧ s < 60 ∧
      0 ≤ us ∧ us < 1000000 ∧
      v = sign * (d * 86400000000 + h * 3600000000 + mi * 60000000 + s * 1000000 + us) := by
  rw [IntervalDT.extract_eq]
  have ht := Time.fromHms_extract (v.natAbs % 86400000000) (by omega)
  generalize Time.extract (v.natAbs % 86400000000) = e at ht
  obtain ⟨h, mi, s, us⟩ := e
  rw [Time.fromHmsUnchecked_eq] at ht
  dsimp only at ht ⊢
  exact ⟨rfl, by omega, by omega, by omega, by omega, by omega, by omega, by omega, by omega, by omega,
    by split <;> omega⟩

/-- extract ∘ constructor = id on in-range field tuples. -/
theorem dt_extract_fromDhms (d h mi s us : Int) (hd : 0 ≤ d) (hh : 0 ≤ h ∧ h < 24) (hm : 0 ≤ mi ∧ mi < 60)
    (hs : 0 ≤ s ∧ s < 60) (hu : 0 ≤ us ∧ us < 1000000) :
    IntervalDT.extract (IntervalDT.fromDhmsUnchecked d h mi s us) = (1, d, h, mi, s, us) := by
  have e := Time.extract_fromHms h mi s us hh.1 hm hs hu
  rw [Time.fromHmsUnchecked_eq] at e
  rw [IntervalDT.fromDhmsUnchecked_eq, IntervalDT.extract_eq]
  generalize hv : d * 86400000000 + (h * 3600000000 + mi * 60000000 + s * 1000000 + us) = v
  have h1 : (v.natAbs : Int) / 86400000000 = d := by omega
  have h2 : (v.natAbs : Int) % 86400000000 = h * 3600000000 + mi * 60000000 + s * 1000000 + us := by omega
  rw [h1, h2, e, if_neg (by omega)]

/-- The constructor accepts exactly the tuples with fields in range whose value is ≤ 100000000 days, and reports
    the first offending field in the order day-range, hour, minute, second, fraction. -/
theorem dt_tryFromDhms_spec (d h mi s us : Int) :
    IntervalDT.tryFromDhms d h mi s us =
      if d > 100000000 ∨ (d = 100000000 ∧ (h ≠ 0 ∨ mi ≠ 0 ∨ s ≠ 0 ∨ us ≠ 0)) then .error .IntervalOutOfRange
      else if h ≥ 24 then .error .TimeOutOfRange
      else if mi ≥ 60 then .error .InvalidMinute
      else if s ≥ 60 then .error .InvalidSecond
      else if us ≥ 1000000 then .error .InvalidFraction
      else .ok (d * 86400000000 + h * 3600000000 + mi * 60000000 + s * 1000000 + us) := by
  have h1 : (d ≥ 100000000 ∧ (d ≠ 100000000 ∨ h ≠ 0 ∨ mi ≠ 0 ∨ s ≠ 0 ∨ us ≠ 0)) ↔
      (d > 100000000 ∨ (d = 100000000 ∧ (h ≠ 0 ∨ mi ≠ 0 ∨ s ≠ 0 ∨ us ≠ 0))) := by omega
  have h2 : us > 999999 ↔ us ≥ 1000000 := by omega
  simp only [IntervalDT.tryFromDhms, IntervalDT.fromDhmsUnchecked_eq, INTERVAL_MAX_DAY, HOURS_PER_DAY,
    MINUTES_PER_HOUR, SECONDS_PER_MINUTE, USECONDS_MAX, h1, h2, ← Int.add_assoc]

theorem dt_tryFromDhms_valid (d h mi s us v : Int) (hd : 0 ≤ d) (hh : 0 ≤ h) (hm : 0 ≤ mi) (hs : 0 ≤ s) (hu : 0 ≤ us)
    (hv : IntervalDT.tryFromDhms d h mi s us = .ok v) : IntervalDT.isValidUsecs v := by
  simp only [dt_tryFromDhms_spec, Chk.ite_error_eq_ok, Except.ok.injEq] at hv
  rw [IntervalDT.isValidUsecs_iff]; omega

theorem dt_negate_involutive (v : Int) : IntervalDT.negate (IntervalDT.negate v) = v := by
  unfold IntervalDT.negate; omega

theorem dt_negate_valid (v : Int) (h : IntervalDT.isValidUsecs v) : IntervalDT.isValidUsecs (IntervalDT.negate v) := by
  unfold IntervalDT.isValidUsecs IntervalDT.negate at *; omega

/-- The day, hour and minute accessors are sign × field (`second()` returns a double: `Lemmas.IntervalDT.second_eq`). -/
theorem dt_accessors (v : Int) :
    IntervalDT.day v = (IntervalDT.extract v).1 * (IntervalDT.extract v).2.1 ∧
    IntervalDT.hour v = (IntervalDT.extract v).1 * (IntervalDT.extract v).2.2.1 ∧
    IntervalDT.minute v = (IntervalDT.extract v).1 * (IntervalDT.extract v).2.2.2.1 := by
  unfold IntervalDT.day IntervalDT.hour IntervalDT.minute IntervalDT.extract USECONDS_PER_DAY USECONDS_PER_HOUR
    USECONDS_PER_MINUTE USECONDS_PER_SECOND
  -- truncating division is odd in the dividend, so below zero the quotients are those of `-v`, negated
  by_cases h : v < 0
  · simp only [h, ↓reduceIte, rdiv_neg_eq h, rrem_neg_eq h, rdiv_neg_left]
    rw [rdiv_nonneg_eq (by omega), rdiv_nonneg_eq (by omega)]
    refine ⟨?_, ?_, ?_⟩ <;> omega
  · have h' : 0 ≤ v := by omega
    simp only [h, ↓reduceIte, rdiv_nonneg_eq h', rrem_nonneg_eq h']
    rw [rdiv_nonneg_eq (by omega), rdiv_nonneg_eq (by omega)]
    refine ⟨?_, ?_, ?_⟩ <;> omega

example : IntervalYM.isValidMonths 2136000000 ∧ IntervalYM.isValidMonths (-2136000000) ∧
    IntervalDT.isValidUsecs 8640000000000000000 ∧ IntervalYM.extract (-25) = (-1, 2, 1) := by decide

end SqlDt.C13
