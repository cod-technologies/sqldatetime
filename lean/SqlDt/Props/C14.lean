/-
  C14  Scaling an interval by a float truncates toward zero and classifies bad operands.
  Classification of every operand, for every scalar `x : F64` (`F64.ofBits` makes each of the 2^64 bit patterns one);
  exact products for integer factors below 2^53; sign symmetry; the half-ulp property of each rounding.
-/
import SqlDt.Lemmas.Div
import SqlDt.Lemmas.FloatSign
import SqlDt.Lemmas.FloatExact
namespace SqlDt.C14
open Gen

/-- What `mul_f64` / `div_f64` return, as a function of the computed double `y`, the range `lo..hi` of the cast and
    the range predicate of the interval: infinite → NumericOverflow, NaN → InvalidNumber, finite → the truncated value
    if it lies in the interval range, else IntervalOutOfRange. -/
def scaleOutcome (lo hi : Int) (valid : Int → Prop) [DecidablePred valid] (y : F64) : Chk Int :=
  match y with
  | .inf _ => .error .NumericOverflow
  | .nan => .error .InvalidNumber
  | .fin s m e =>
    if valid (F64.toIntSat lo hi (.fin s m e)) then .ok (F64.toIntSat lo hi (.fin s m e))
    else .error .IntervalOutOfRange

theorem scaleOutcome_valid {lo hi : Int} {valid : Int → Prop} [DecidablePred valid] {y : F64} {r : Int}
    (h : scaleOutcome lo hi valid y = .ok r) : valid r := by
  cases y with
  | fin s m e => exact Chk.gate_valid h
  | _ => cases h

/-- Classification of every scalar. -/
theorem dt_mul_classify (v : Int) (x : F64) :
    IntervalDT.mulF64 v x = scaleOutcome I64_MIN I64_MAX IntervalDT.isValidUsecs (F64.mul (F64.ofInt v) x) := by
  unfold IntervalDT.mulF64 IntervalDT.tryFromUsecs
  cases F64.mul (F64.ofInt v) x <;> rfl

/-- Division: a zero divisor (either sign) is reported first, whatever the dividend. -/
theorem dt_div_classify (v : Int) (x : F64) :
    IntervalDT.divF64 v x =
      if x.isZero then .error .DivideByZero
      else scaleOutcome I64_MIN I64_MAX IntervalDT.isValidUsecs (F64.div (F64.ofInt v) x) := by
  unfold IntervalDT.divF64 IntervalDT.tryFromUsecs
  split
  · rfl
  · cases F64.div (F64.ofInt v) x <;> rfl

theorem dt_div_zero (v : Int) (s : Bool) : IntervalDT.divF64 v (F64.zero s) = .error .DivideByZero := by
  rw [dt_div_classify]; rfl

theorem ym_mul_classify (v : Int) (x : F64) :
    IntervalYM.mulF64 v x = scaleOutcome I32_MIN I32_MAX IntervalYM.isValidMonths (F64.mul (F64.ofInt v) x) := by
  unfold IntervalYM.mulF64 IntervalYM.tryFromMonths
  cases F64.mul (F64.ofInt v) x <;> rfl

theorem ym_div_classify (v : Int) (x : F64) :
    IntervalYM.divF64 v x =
      if x.isZero then .error .DivideByZero
      else scaleOutcome I32_MIN I32_MAX IntervalYM.isValidMonths (F64.div (F64.ofInt v) x) := by
  unfold IntervalYM.divF64 IntervalYM.tryFromMonths
  split
  · rfl
  · cases F64.div (F64.ofInt v) x <;> rfl

theorem ym_div_zero (v : Int) (s : Bool) : IntervalYM.divF64 v (F64.zero s) = .error .DivideByZero := by
  rw [ym_div_classify]; rfl

/-- A NaN multiplier or divisor is an invalid number. -/
theorem dt_mul_nan (v : Int) : IntervalDT.mulF64 v .nan = .error .InvalidNumber := by
  rw [dt_mul_classify]; cases F64.ofInt v <;> rfl

theorem dt_div_nan (v : Int) : IntervalDT.divF64 v .nan = .error .InvalidNumber := by
  rw [dt_div_classify]; cases F64.ofInt v <;> rfl

theorem dt_mul_valid (v : Int) (x : F64) (r : Int) (h : IntervalDT.mulF64 v x = .ok r) : IntervalDT.isValidUsecs r :=
  scaleOutcome_valid (dt_mul_classify v x ▸ h)

theorem ym_mul_valid (v : Int) (x : F64) (r : Int) (h : IntervalYM.mulF64 v x = .ok r) : IntervalYM.isValidMonths r :=
  scaleOutcome_valid (ym_mul_classify v x ▸ h)

theorem dt_div_valid (v : Int) (x : F64) (r : Int) (h : IntervalDT.divF64 v x = .ok r) : IntervalDT.isValidUsecs r := by
  rw [dt_div_classify] at h
  exact scaleOutcome_valid (Chk.ite_error_eq_ok.1 h).2

theorem ym_div_valid (v : Int) (x : F64) (r : Int) (h : IntervalYM.divF64 v x = .ok r) : IntervalYM.isValidMonths r := by
  rw [ym_div_classify] at h
  exact scaleOutcome_valid (Chk.ite_error_eq_ok.1 h).2

/-- The cast truncates toward zero and saturates: the value returned for a finite product `±m·2^e` is
    `±⌊m·2^e⌋` clamped to the i64 range. -/
theorem toI64_trunc (s : Bool) (m : Nat) (e : Int) :
    F64.toI64 (.fin s m e) =
      let t := F64.truncInt s m e
      if t < I64_MIN then I64_MIN else if t > I64_MAX then I64_MAX else t := rfl

/-- Exact products: multiplying an interval by an integer-valued double gives exactly `v·k` whenever `v`, `k` and the
    product are at most 2^53 in magnitude (such a product is always inside the interval range). -/
theorem dt_mul_integer_exact (v k : Int) (hv : v.natAbs ≤ 9007199254740992) (hk : k.natAbs ≤ 9007199254740992)
    (hvk : (v * k).natAbs ≤ 9007199254740992) :
    IntervalDT.mulF64 v (F64.ofInt k) = .ok (v * k) := by
  have hr : IntervalDT.isValidUsecs (v * k) := by
    unfold IntervalDT.isValidUsecs INTERVAL_MAX_USECONDS; omega
  obtain ⟨s, m, e, h1, h2⟩ := Lemmas.mul_ofInt_cast I64_MIN I64_MAX v k hv hk hvk (by unfold I64_MIN; omega)
    (by unfold I64_MAX; omega)
  rw [dt_mul_classify, h1]
  simp only [scaleOutcome, h2, hr, ↓reduceIte]

/-- Same for year-month intervals (months fit in i32, the product must stay within the interval range). -/
theorem ym_mul_integer_exact (v k : Int) (hv : v.natAbs ≤ 9007199254740992) (hk : k.natAbs ≤ 9007199254740992)
    (hvk : (v * k).natAbs ≤ 2136000000) :
    IntervalYM.mulF64 v (F64.ofInt k) = .ok (v * k) := by
  have hr : IntervalYM.isValidMonths (v * k) := by
    unfold IntervalYM.isValidMonths INTERVAL_MAX_MONTH; omega
  obtain ⟨s, m, e, h1, h2⟩ := Lemmas.mul_ofInt_cast I32_MIN I32_MAX v k hv hk (by omega) (by unfold I32_MIN; omega)
    (by unfold I32_MAX; omega)
  rw [ym_mul_classify, h1]
  simp only [scaleOutcome, h2, hr, ↓reduceIte]

/-- Sign symmetry of the arithmetic: `(−x)·k = −(x·k) = x·(−k)` at the level of doubles (round-to-nearest-even and
    truncation toward zero are odd functions), for every interval value `x ≠ 0` and every double `k`. -/
theorem mul_sign_symmetry (v : Int) (hv : v ≠ 0) (k : F64) :
    F64.mul (F64.ofInt (-v)) k = F64.neg (F64.mul (F64.ofInt v) k) ∧
    F64.mul (F64.ofInt v) (F64.neg k) = F64.neg (F64.mul (F64.ofInt v) k) ∧
    F64.div (F64.ofInt (-v)) k = F64.neg (F64.div (F64.ofInt v) k) ∧
    F64.div (F64.ofInt v) (F64.neg k) = F64.neg (F64.div (F64.ofInt v) k) := by
  rw [Lemmas.F64.ofInt_neg v hv]
  exact ⟨Lemmas.F64.mul_neg_left _ _, Lemmas.F64.mul_neg_right _ _, Lemmas.F64.div_neg_left _ _, Lemmas.F64.div_neg_right _ _⟩

/-- …and the truncating cast, saturating at a symmetric range `−b..b`, commutes with negation (the ranges of `i64` and
    `i32` themselves are not symmetric). -/
theorem trunc_neg (x : F64) (b : Int) (hb : 0 ≤ b) : F64.toIntSat (-b) b (F64.neg x) = -(F64.toIntSat (-b) b x) := by
  have := Lemmas.F64.toIntSat_neg (-b) b x (by omega)
  simpa using this

/-- Round-to-nearest-even, stated without division: the rounded significand/exponent of a positive rational `num/den`
    is canonical and within half a unit in the last place. -/
theorem rounding_half_ulp (num den m : Nat) (e : Int) (hn : 0 < num) (hd : 0 < den)
    (h : F64.roundPos num den = some (m, e)) :
    m < F64.P53 ∧ F64.EMIN ≤ e ∧ e ≤ F64.EMAX ∧ (F64.P52 ≤ m ∨ e = F64.EMIN) ∧
    2 * ((m * F64.pow2 e.toNat * den : Nat) - (num * F64.pow2 (-e).toNat : Nat) : Int).natAbs
      ≤ F64.pow2 e.toNat * den :=
  Lemmas.F64.roundPos_spec num den m e hn hd h

/-- Relative error of each correctly rounded operation in the normal range: `|computed − exact| ≤ u/(1+u)·exact` with
    `u = 2^-53`, without division: `(2^53 + 1)·|m·P·den − num·Q| ≤ num·Q`.  (Props/C14Accuracy composes the two
    roundings of `mul_f64`/`div_f64`.) -/
theorem rounding_relative_error (num den m : Nat) (e : Int) (hn : 0 < num) (hd : 0 < den)
    (h : F64.roundPos num den = some (m, e)) (hnorm : F64.P52 ≤ m) (he : F64.EMIN < e) :
    9007199254740993 * ((m * F64.pow2 e.toNat * den : Nat) - (num * F64.pow2 (-e).toNat : Nat) : Int).natAbs
      ≤ num * F64.pow2 (-e).toNat := by
  have _ := hnorm   -- implied by `he`, the result being canonical
  exact Lemmas.F64.roundPos_rel num den m e hn hd h he

example : IntervalDT.mulF64 10 (F64.ofInt 3) = .ok 30 ∧ IntervalDT.divF64 10 (F64.ofInt 4) = .ok 2 ∧
    IntervalDT.divF64 (-10) (F64.ofInt 4) = .ok (-2) ∧ IntervalDT.divF64 10 (F64.zero true) = .error .DivideByZero ∧
    IntervalDT.mulF64 1 (.inf false) = .error .NumericOverflow ∧ IntervalDT.mulF64 0 (.inf false) = .error .InvalidNumber := by
  decide

end SqlDt.C14
