/-
  C04  Formatting renders every field exactly as the picture specifies.
  First, every string table the formatter indexes — regenerated from the Rust source on each run — equals the
  arithmetic rendering it stands for (evaluated once, in Lemmas/Render.lean: a changed table entry breaks the build there).
  Then, for all six types, every value and every picture, `format` = `Spec.render` (Spec/Render.lean).
-/
import SqlDt.Lemmas.RenderValues
namespace SqlDt.C04
open Gen Spec

theorem month_table : MONTH_TABLE = (List.range 13).map (pad 2) := Lemmas.month_table
theorem hour_table : HOUR_TABLE = (List.range 25).map (pad 2) := Lemmas.hour_table
theorem day_table : DAY_TABLE = (List.range 32).map (pad 2) := Lemmas.day_table
theorem minute_second_table : MINUTE_SECOND_TABLE = (List.range 61).map (pad 2) := Lemmas.minute_second_table
theorem day_of_week_table : DAY_OF_WEEK_TABLE = (List.range 8).map (pad 1) := Lemmas.day_of_week_table
theorem day_of_year_table : DAY_OF_YEAR_TABLE = (List.range 367).map (pad 3) := Lemmas.day_of_year_table

/-- Week of month: entry `d` (day of month 1..31) is `⌊(d−1)/7⌋+1`; entry 0 is unused. -/
theorem week_of_month_table :
    WEEK_OF_MONTH_TABLE = (List.range 32).map (fun d => if d = 0 then pad 1 0 else pad 1 (weekOf d)) :=
  Lemmas.week_of_month_table

/-- Week of year: entry `n` (day of year 1..366) is `⌊(n−1)/7⌋+1` on two digits. -/
theorem week_of_year_table :
    WEEK_OF_YEAR_TABLE = (List.range 367).map (fun n => if n = 0 then pad 2 0 else pad 2 (weekOf n)) :=
  Lemmas.week_of_year_table

/-- The six month-name rows are the English names in the six letter-case styles. -/
theorem month_name_table (style : NameStyle) :
    MONTH_NAME_TABLE.getD style.index [] = monthNames.map (styled style) :=
  Lemmas.month_name_table style

theorem day_name_table (style : NameStyle) :
    DAY_NAME_TABLE.getD style.index [] = dayNames.map (styled style) :=
  Lemmas.day_name_table style

theorem ampm_text :
    AM_TEXT = ["AM", "am", "A.M.", "a.m."].map monthNames.bytesOf' ∧
    PM_TEXT = ["PM", "pm", "P.M.", "p.m."].map monthNames.bytesOf' := by decide +kernel

/-- The digit loop of `write_u32` produces the zero-padded decimal, for every u32 value.  The model function takes any
    width; the crate's asserts `0 < width < 11` (its buffer has 11 bytes). -/
theorem writeU32_pad (v w : Nat) (hv : v ≤ 4294967295) : writeU32 (Int.ofNat v) w = pad w v :=
  writeU32_eq_pad v w (by omega)

/-- Entry `m` of the cumulative day table (`the_day_of_year` reads it) is the sum of the first `m + 1` month lengths,
    in both leap rows. -/
theorem sum_of_days_table :
    ∀ leap < 2, ∀ m < 12,
      (SUM_OF_DAYS_TABLE.getD leap []).getD m 0 =
        (((DAYS_OF_MONTH_TABLE.getD leap []).take (m + 1)).foldl (· + ·) 0) := by decide +kernel

/-- For all six types: whenever the formatter's `NaiveDateTime` carries the components `c` of a valid value
    (`Lemmas.Agrees`), each token is written exactly as `Spec.renderField` says – or formatting fails with a format
    error when the token does not apply to the type. (`FractionOK`: the `f64` division of `FFn`, see Lemmas/FloatFrac.) -/
theorem formatField_eq_render (ty : Ty) (v : Int) (dt : NDT) (c : Comps) (w : Sink) (f : Field)
    (h : Lemmas.Agrees ty v dt c) (hf : Lemmas.Field.WellFormed f) (hfr : Lemmas.FractionOK dt c) :
    Formatter.formatField ty v dt w f = Lemmas.outcome w (renderField ty c f) :=
  Lemmas.formatField_eq_render ty v dt c w f h hf hfr

/-- For a whole picture, any type: the text is the sign (intervals only, once, first) followed by the renderings in picture
    order; one inapplicable token makes the whole call a format error. -/
theorem format_eq_render (ty : Ty) (v : Int) (c : Comps) (h : Lemmas.Agrees ty v (NDT.ofValue ty v) c)
    (hfr : Lemmas.FractionOK (NDT.ofValue ty v) c) (hneg : (NDT.ofValue ty v).negative = c.neg)
    (fields : List Field) (hwf : ∀ f ∈ fields, Lemmas.Field.WellFormed f) :
    Formatter.format ty v fields none = Lemmas.toChk (render ty c fields) :=
  Lemmas.format_eq_render ty v c h hfr hneg fields hwf

/-- From the picture text: the picture's compile error, or the specified rendering, or a format error if the picture
    contains a token that does not apply to the type. -/
theorem from_picture {ty : Ty} {v : Int} {c : Comps} (h : Lemmas.Renders ty v c) (pic : Bytes) :
    formatValue ty v pic none = (Lexer.tryNew pic).bind fun fields => Lemmas.toChk (render ty c fields) := by
  simp only [h.formatValue pic none, Lemmas.toChkCap_none]

/-- From the picture text, for every real date of years 1..9999 and every picture:
    `Date::format(picture)` is the picture's compile error, or the specified rendering of (y, m, d) with its weekday
    and ordinal day, or a format error if the picture contains a token that does not apply to dates. -/
theorem format_date (y m d : Int) (h : ValidYMD y m d) (pic : Bytes) :
    formatValue .D (dayNumber y m d) pic none =
      (Lexer.tryNew pic).bind fun fields => Lemmas.toChk (render .D (Lemmas.compsOfDate y m d) fields) :=
  from_picture (Lemmas.renders_date y m d h) pic

/-- For every time of day (hour<24, minute<60, second<60, µs<10^6) and every picture; fractional seconds are truncated to
    the requested digits (`Spec.fractionOf`), never rounded – including `FF7..FF9`, whose divisors 0.1/0.01/0.001 are
    not exact doubles (`Lemmas.fraction_eq`, Lemmas/FloatFrac). -/
theorem format_time (h mi s us : Int) (hh : 0 ≤ h ∧ h < 24) (hm : 0 ≤ mi ∧ mi < 60) (hs : 0 ≤ s ∧ s < 60)
    (hu : 0 ≤ us ∧ us < 1000000) (pic : Bytes) :
    formatValue .T (Time.fromHmsUnchecked h mi s us) pic none =
      (Lexer.tryNew pic).bind fun fields => Lemmas.toChk (render .T (Lemmas.compsOfTime h mi s us) fields) :=
  from_picture (Lemmas.renders_time h mi s us hh hm hs hu) pic

/-- For timestamps and Oracle-style dates (these have `us = 0`, which the statement does not need): every real date of
    years 1..9999 with every time of day. -/
theorem format_timestamp (ty : Ty) (hty : ty = .TS ∨ ty = .OD) (y m d h mi s us : Int) (hv : ValidYMD y m d)
    (hh : 0 ≤ h ∧ h < 24) (hm : 0 ≤ mi ∧ mi < 60) (hs : 0 ≤ s ∧ s < 60) (hu : 0 ≤ us ∧ us < 1000000) (pic : Bytes) :
    formatValue ty (Lemmas.tsOf y m d h mi s us) pic none =
      (Lexer.tryNew pic).bind fun fields => Lemmas.toChk (render ty (Lemmas.compsOfTs y m d h mi s us) fields) :=
  from_picture (Lemmas.renders_ts ty hty y m d h mi s us hv hh hm hs hu) pic

/-- For every year-month interval `±(y years, mo months)`; the sign is written once, first. -/
theorem format_interval_ym (neg : Bool) (y mo : Int) (hy : 0 ≤ y ∧ y ≤ 178000000) (hm : 0 ≤ mo ∧ mo < 12)
    (hz : neg = true → y * 12 + mo ≠ 0) (pic : Bytes) :
    formatValue .YM (Lemmas.ymOf neg y mo) pic none =
      (Lexer.tryNew pic).bind fun fields => Lemmas.toChk (render .YM (Lemmas.compsOfYM neg y mo) fields) :=
  from_picture (Lemmas.renders_ym neg y mo hy hm hz) pic

/-- For every day-time interval `±(d days, h:mi:s.µs)`. -/
theorem format_interval_dt (neg : Bool) (d h mi s us : Int) (hd : 0 ≤ d ∧ d ≤ 100000000) (hh : 0 ≤ h ∧ h < 24)
    (hm : 0 ≤ mi ∧ mi < 60) (hs : 0 ≤ s ∧ s < 60) (hu : 0 ≤ us ∧ us < 1000000)
    (hz : neg = true → Lemmas.dtMag d h mi s us ≠ 0) (pic : Bytes) :
    formatValue .DT (Lemmas.dtOf neg d h mi s us) pic none =
      (Lexer.tryNew pic).bind fun fields => Lemmas.toChk (render .DT (Lemmas.compsOfDT neg d h mi s us) fields) :=
  from_picture (Lemmas.renders_dt neg d h mi s us hd hh hm hs hu hz) pic

example : ValidYMD 2024 2 29 ∧
    formatValue .D (dayNumber 2024 2 29) (lit "Day, DD Month YYYY DDD W WW D") none
      = .ok (lit "Thursday, 29 February 2024 060 5 09 5") := by decide +kernel

end SqlDt.C04
