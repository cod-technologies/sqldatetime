/-
  C03, the per-operation table: for every operation of the line protocol (tools/catalog.py `OPS`) whose model function
  can express a failure (returns `Chk _`) and that Props/C03.lean, C03Units.lean and C03Format.lean do not state
  themselves: `op args ≠ .error .Panic`, about the same model expression the driver (Driver.lean, `handler`) evaluates.
  Hypotheses are at most the validity of value-typed arguments; most rows need none, i.e. hold for every integer, every
  double and every clock – of the MODEL, which computes on unbounded integers.  Where the crate adds or subtracts
  unchecked before its final range check (`Timestamp::add_time`, `sub_time`, `IntervalDT::sub_time`: the rows
  `date_subTime_np`, `ts_addTime_np`, `ts_subTime_np`, `dt_subTime_np`, `od_addTime_np`, `od_subTime_np`), the row says
  that this check does not panic; that the arithmetic before it stays inside `i64` for valid arguments is
  `TrSafe.Timestamp.add_time_safe`, `sub_time_safe`, `TrSafe.IntervalDT.sub_time_safe` (Lemmas/TranslatedSafe).
  Operations whose model function is TOTAL (returns a plain `Int`/`Bool`/tuple/`F64`, no `Chk`) have nothing to state:
  the arithmetic they perform is bounded by the receivers' validity (theorems of C07/C08/C12/C13) and the model has no
  failure value for them; tools/rows_map.json lists them with `"C03": "total"`.
-/
import SqlDt.Props.C03Units
namespace SqlDt.C03Rows

/-- `D.try_from_ymd`. -/
theorem date_tryFromYmd_np (y m d : Int) : Date.tryFromYmd y m d ≠ .error .Panic := C03.tryFromYmd_no_panic y m d

/-- `D.try_from_days`. -/
theorem date_tryFromDays_np (k : Int) : Date.tryFromDays k ≠ .error .Panic := Chk.gate_ne (by decide)

/-- `T.try_from_hms`. -/
theorem time_tryFromHms_np (h mi s us : Int) : Time.tryFromHms h mi s us ≠ .error .Panic := by
  unfold Time.tryFromHms; (repeat' split) <;> simp

/-- `T.try_from_usecs`. -/
theorem time_tryFromUsecs_np (k : Int) : Time.tryFromUsecs k ≠ .error .Panic := Chk.gate_ne (by decide)

/-- `TS.try_from_usecs`. -/
theorem ts_tryFromUsecs_np (k : Int) : Timestamp.tryFromUsecs k ≠ .error .Panic := Chk.gate_ne (by decide)

/-- `YM.try_from_ym`. -/
theorem ym_tryFromYm_np (y m : Int) : IntervalYM.tryFromYm y m ≠ .error .Panic := Lemmas.tryFromYm_np y m

/-- `YM.try_from_months`. -/
theorem ym_tryFromMonths_np (k : Int) : IntervalYM.tryFromMonths k ≠ .error .Panic := Chk.gate_ne (by decide)

/-- `DT.try_from_dhms`. -/
theorem dt_tryFromDhms_np (d h mi s us : Int) : IntervalDT.tryFromDhms d h mi s us ≠ .error .Panic :=
  Lemmas.tryFromDhms_np d h mi s us

/-- `DT.try_from_usecs`. -/
theorem dt_tryFromUsecs_np (k : Int) : IntervalDT.tryFromUsecs k ≠ .error .Panic := Chk.gate_ne (by decide)

/-- `OD.try_from_usecs`. -/
theorem od_tryFromUsecs_np (k : Int) : OracleDate.tryFromUsecs k ≠ .error .Panic := Chk.gate_ne (by decide)

example : Date.tryFromYmd (-2147483648) 4294967295 4294967295 = .error .DateOutOfRange ∧
    Time.tryFromHms 4294967295 4294967295 4294967295 4294967295 = .error .TimeOutOfRange ∧
    IntervalDT.tryFromDhms 4294967295 0 0 0 0 = .error .IntervalOutOfRange ∧
    IntervalYM.tryFromYm 178000000 0 = .ok 2136000000 := by decide

/-- `D.and_hms`. -/
theorem date_andHms_np (d h mi s us : Int) : Timestamp.andHms d h mi s us ≠ .error .Panic :=
  Chk.bind_pure_ne_panic (time_tryFromHms_np h mi s us)

/-- `D.add_days`. -/
theorem date_addDays_np (d k : Int) : Date.addDays d k ≠ .error .Panic := Date.addDays_eq d k ▸ date_tryFromDays_np _

/-- `D.sub_days`. -/
theorem date_subDays_np (d k : Int) : Date.subDays d k ≠ .error .Panic := Date.subDays_eq d k ▸ date_tryFromDays_np _

/-- `D.add_ym`: ANY day number, ANY month count. -/
theorem date_addIntervalYm_np (d i : Int) :
    (do let r ← Date.addIntervalYmInternal d i; pure (Timestamp.new r 0) : Chk Int) ≠ .error .Panic :=
  Chk.bind_pure_ne_panic (C03.date_addMonths_no_panic d i)

/-- `D.sub_ym`. -/
theorem date_subIntervalYm_np (d i : Int) (hd : isValidDate d) :
    (do let r ← Date.addIntervalYmInternal d (IntervalYM.negate i); pure (Timestamp.new r 0) : Chk Int) ≠ .error .Panic :=
  date_addIntervalYm_np d (IntervalYM.negate i)

example : isValidDate 2932896 ∧ IntervalYM.isValidMonths (-2136000000) ∧
    (do let r ← Date.addIntervalYmInternal 2932896 (IntervalYM.negate (-2136000000)); pure (Timestamp.new r 0) : Chk Int)
      = .error .DateOutOfRange := by decide

/-- `D.add_dt`. -/
theorem date_addIntervalDt_np (d i : Int) : Timestamp.addIntervalDt (Timestamp.new d 0) i ≠ .error .Panic :=
  Timestamp.addIntervalDt_eq _ i ▸ ts_tryFromUsecs_np _

/-- `D.sub_dt`. -/
theorem date_subIntervalDt_np (d i : Int) : Timestamp.subIntervalDt (Timestamp.new d 0) i ≠ .error .Panic :=
  date_addIntervalDt_np d (IntervalDT.negate i)

/-- `D.sub_time`. -/
theorem date_subTime_np (d t : Int) : Timestamp.subTime (Timestamp.new d 0) t ≠ .error .Panic :=
  ts_tryFromUsecs_np _

/-- `D.now`, under ANY clock. -/
theorem date_now_np (c : Clock) : Date.now c ≠ .error .Panic := date_tryFromYmd_np _ _ _

/-- `T.mul_f64`, every `x : F64`. -/
theorem time_mulF64_np (t : Int) (x : F64) : IntervalDT.mulF64 t x ≠ .error .Panic := (C03.scaling_no_panic t x).1

/-- `T.div_f64`. -/
theorem time_divF64_np (t : Int) (x : F64) : IntervalDT.divF64 t x ≠ .error .Panic := (C03.scaling_no_panic t x).2.1

/-- `TS.add_dt`. -/
theorem ts_addIntervalDt_np (ts i : Int) : Timestamp.addIntervalDt ts i ≠ .error .Panic :=
  Timestamp.addIntervalDt_eq ts i ▸ ts_tryFromUsecs_np _

/-- `TS.sub_dt`. -/
theorem ts_subIntervalDt_np (ts i : Int) : Timestamp.subIntervalDt ts i ≠ .error .Panic :=
  ts_addIntervalDt_np ts (IntervalDT.negate i)

/-- `TS.sub_ym`: ANY month count (`hts` is not used). -/
theorem ts_subIntervalYm_np (ts i : Int) (hts : isValidTimestamp ts) : Timestamp.subIntervalYm ts i ≠ .error .Panic :=
  C03.ts_addMonths_no_panic ts (IntervalYM.negate i)

/-- `TS.add_time`. -/
theorem ts_addTime_np (ts t : Int) : Timestamp.addTime ts t ≠ .error .Panic := ts_tryFromUsecs_np _

/-- `TS.sub_time`. -/
theorem ts_subTime_np (ts t : Int) : Timestamp.subTime ts t ≠ .error .Panic := ts_tryFromUsecs_np _

/-- `TS.sub_days`, every double. -/
theorem ts_subDays_np (ts : Int) (x : F64) : Timestamp.subDays ts x ≠ .error .Panic := C03.addDays_no_panic ts (F64.neg x)

/-- `TS.now`, under ANY clock. -/
theorem ts_now_np (c : Clock) : Timestamp.now c ≠ .error .Panic := by
  unfold Timestamp.now
  exact Chk.bind_ne_panic (date_tryFromYmd_np _ _ _) (fun d _ => Chk.bind_pure_ne_panic (time_tryFromHms_np _ _ _ _))

/-- `TS.from_T`, under ANY clock. -/
theorem ts_fromTime_np (t : Int) (c : Clock) : Timestamp.fromTime t c ≠ .error .Panic :=
  Chk.bind_pure_ne_panic (date_tryFromYmd_np _ _ _)

/-- `oracle::Date::add_days`, every integer receiver, every double (the rows `OD.add_days`, `TS.oracle_add_days`). -/
theorem od_addDays_np (od : Int) (x : F64) : OracleDate.addDays od x ≠ .error .Panic := by
  unfold OracleDate.addDays
  exact Chk.bind_ne_panic (C03.addDays_no_panic od x) (fun ts _ => ts_tryFromUsecs_np _)

/-- `TS.oracle_add_days`. -/
theorem ts_oracleAddDays_np (ts : Int) (x : F64) : OracleDate.addDays (OracleDate.fromTimestamp ts) x ≠ .error .Panic :=
  od_addDays_np _ x

/-- `TS.oracle_sub_days`. -/
theorem ts_oracleSubDays_np (ts : Int) (x : F64) :
    OracleDate.addDays (OracleDate.fromTimestamp ts) (F64.neg x) ≠ .error .Panic := od_addDays_np _ _

example : Timestamp.now { year := 262000, month := 12, day := 31, hour := 23, minute := 59, second := 59, usec := 999999 }
      = .error .DateOutOfRange ∧
    OracleDate.addDays 253402300799000000 (F64.ofBits 0x7FF8000000000000) = .error .InvalidNumber ∧
    OracleDate.addDays 253402300799000000 (F64.ofBits 0x7FF0000000000000) = .error .NumericOverflow := by decide

/-- `YM.add_ym`. -/
theorem ym_add_np (a b : Int) : IntervalYM.addIntervalYm a b ≠ .error .Panic :=
  IntervalYM.addIntervalYm_eq a b ▸ ym_tryFromMonths_np _

/-- `YM.sub_ym`. -/
theorem ym_sub_np (a b : Int) : IntervalYM.subIntervalYm a b ≠ .error .Panic := ym_add_np a (IntervalYM.negate b)

/-- `YM.mul_f64`. -/
theorem ym_mulF64_np (v : Int) (x : F64) : IntervalYM.mulF64 v x ≠ .error .Panic := (C03.scaling_no_panic v x).2.2.1

/-- `YM.div_f64`. -/
theorem ym_divF64_np (v : Int) (x : F64) : IntervalYM.divF64 v x ≠ .error .Panic := (C03.scaling_no_panic v x).2.2.2

/-- `DT.add_dt`. -/
theorem dt_add_np (a b : Int) : IntervalDT.addIntervalDt a b ≠ .error .Panic :=
  IntervalDT.addIntervalDt_eq a b ▸ dt_tryFromUsecs_np _

/-- `DT.sub_dt`. -/
theorem dt_sub_np (a b : Int) : IntervalDT.subIntervalDt a b ≠ .error .Panic := dt_add_np a (IntervalDT.negate b)

/-- `DT.mul_f64`. -/
theorem dt_mulF64_np (v : Int) (x : F64) : IntervalDT.mulF64 v x ≠ .error .Panic := (C03.scaling_no_panic v x).1

/-- `DT.div_f64`. -/
theorem dt_divF64_np (v : Int) (x : F64) : IntervalDT.divF64 v x ≠ .error .Panic := (C03.scaling_no_panic v x).2.1

/-- `DT.sub_time`. -/
theorem dt_subTime_np (v t : Int) : IntervalDT.subTime v t ≠ .error .Panic := dt_tryFromUsecs_np _

example : IntervalDT.divF64 86400000000 (F64.ofBits 0x8000000000000000) = .error .DivideByZero ∧
    IntervalYM.subIntervalYm (-2136000000) 2136000000 = .error .IntervalOutOfRange := by decide

/-- `OD.add_dt`. -/
theorem od_addIntervalDt_np (od i : Int) : OracleDate.addIntervalDt od i ≠ .error .Panic :=
  Chk.bind_pure_ne_panic (ts_addIntervalDt_np od i)

/-- `OD.sub_dt`. -/
theorem od_subIntervalDt_np (od i : Int) : OracleDate.subIntervalDt od i ≠ .error .Panic :=
  od_addIntervalDt_np od (IntervalDT.negate i)

/-- `OD.add_ym`: ANY receiver, ANY month count. -/
theorem od_addIntervalYm_np (od i : Int) : OracleDate.addIntervalYm od i ≠ .error .Panic :=
  Chk.bind_pure_ne_panic (C03.ts_addMonths_no_panic od i)

/-- `OD.sub_ym`. -/
theorem od_subIntervalYm_np (od i : Int) (hod : isValidTimestamp od) : OracleDate.subIntervalYm od i ≠ .error .Panic :=
  od_addIntervalYm_np od (IntervalYM.negate i)

/-- `OD.add_time`. -/
theorem od_addTime_np (od t : Int) : Timestamp.addTime od t ≠ .error .Panic := ts_addTime_np od t

/-- `OD.sub_time`. -/
theorem od_subTime_np (od t : Int) : Timestamp.subTime od t ≠ .error .Panic := ts_subTime_np od t

/-- `OD.sub_days`. -/
theorem od_subDays_np (od : Int) (x : F64) : OracleDate.subDays od x ≠ .error .Panic := od_addDays_np od (F64.neg x)

/-- `OD.from_T`, under ANY clock. -/
theorem od_fromTime_np (t : Int) (c : Clock) : OracleDate.fromTime t c ≠ .error .Panic :=
  Chk.bind_pure_ne_panic (date_tryFromYmd_np _ _ _)

/-- `OD.now`, under ANY clock. -/
theorem od_now_np (c : Clock) : OracleDate.now c ≠ .error .Panic := by
  unfold OracleDate.now
  exact Chk.bind_ne_panic (date_tryFromYmd_np _ _ _) (fun d _ => Chk.bind_pure_ne_panic (time_tryFromHms_np _ _ _ _))

example : OracleDate.isValidDate 253402300799000000 ∧ isValidTimestamp 253402300799000000 ∧
    OracleDate.addIntervalYm 253402300799000000 1 = .error .DateOutOfRange ∧
    OracleDate.subIntervalYm 253402300799000000 1 = .error .InvalidDate ∧
    OracleDate.subIntervalYm 253402300799000000 2 = .ok 253397030399000000 := by decide

end SqlDt.C03Rows
