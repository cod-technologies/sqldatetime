/-
  C08 (continuation): a fractional-day offset on a timestamp equals that offset, computed in double precision,
  rounded to the nearest microsecond.  Statements over ℚ in the vocabulary of Lemmas/FloatValue (`F64.val`,
  `roundHalfAwayQ`); proofs in Lemmas/AccuracyMain.
-/
import SqlDt.Lemmas.AccuracyMain
namespace SqlDt.C08

/-- For every valid timestamp `ts` and every finite double `x` (days), with `p = x·86400·10^6` the exact
    offset in microseconds: either there is a rational `q` with `|q − p| ≤ 2^-53·|p|` (the offset computed in double
    precision — ONE rounding) such that the call returns `ts + (q rounded to the nearest microsecond, ties away from
    zero)` exactly when that is a valid timestamp, and `DateOutOfRange` otherwise; or the double product overflowed
    (`NumericOverflow`, only for `|p| ≥ 2^1023`). -/
theorem ts_addDays_accuracy (ts : Int) (hts : isValidTimestamp ts) (s : Bool) (m : Nat) (e : Int) :
    (∃ q : ℚ, |q - F64.val (.fin s m e) * 86400000000| ≤ 2 ^ (-53 : Int) * |F64.val (.fin s m e) * 86400000000| ∧
      Timestamp.addDays ts (.fin s m e) =
        if isValidTimestamp (ts + roundHalfAwayQ q) then .ok (ts + roundHalfAwayQ q) else .error .DateOutOfRange) ∨
    (Timestamp.addDays ts (.fin s m e) = .error .NumericOverflow ∧
      (2 : ℚ) ^ (1023 : Int) ≤ |F64.val (.fin s m e) * 86400000000|) :=
  Accuracy.ts_addDays_accuracy ts hts s m e

/-- In the normal range (`|p| ≥ 2^-1022`) the witness is the computed double `fl(x · 86400e6)` itself, and the
    relative error is at most `u' = 2^-53/(1+2^-53)`. -/
theorem ts_addDays_accuracy_normal (ts : Int) (hts : isValidTimestamp ts) (s : Bool) (m : Nat) (e : Int)
    (hn : (2 : ℚ) ^ (-1022 : Int) ≤ |F64.val (.fin s m e) * 86400000000|) :
    (|F64.val (F64.mul (.fin s m e) (F64.ofInt 86400000000)) - F64.val (.fin s m e) * 86400000000| ≤
        F64.u' * |F64.val (.fin s m e) * 86400000000| ∧
      Timestamp.addDays ts (.fin s m e) =
        if isValidTimestamp (ts + roundHalfAwayQ (F64.val (F64.mul (.fin s m e) (F64.ofInt 86400000000))))
        then .ok (ts + roundHalfAwayQ (F64.val (F64.mul (.fin s m e) (F64.ofInt 86400000000))))
        else .error .DateOutOfRange) ∨
    (Timestamp.addDays ts (.fin s m e) = .error .NumericOverflow ∧
      (2 : ℚ) ^ (1023 : Int) ≤ |F64.val (.fin s m e) * 86400000000|) :=
  Accuracy.ts_addDays_accuracy_normal ts hts s m e hn

/-- The form of the property text: a returned timestamp is `ts` plus the double-precision offset rounded to the nearest
    microsecond; hence it is within `1/2 + 2^-53·|p|` microseconds of the exact `ts + p`. -/
theorem ts_addDays_ok (ts : Int) (hts : isValidTimestamp ts) (s : Bool) (m : Nat) (e : Int) (r : Int)
    (h : Timestamp.addDays ts (.fin s m e) = .ok r) :
    (∃ q : ℚ, |q - F64.val (.fin s m e) * 86400000000| ≤ 2 ^ (-53 : Int) * |F64.val (.fin s m e) * 86400000000| ∧
      r = ts + roundHalfAwayQ q ∧ isValidTimestamp r) ∧
    |(r : ℚ) - (ts : ℚ) - F64.val (.fin s m e) * 86400000000| ≤
      1 / 2 + 2 ^ (-53 : Int) * |F64.val (.fin s m e) * 86400000000| :=
  Accuracy.ts_addDays_ok ts hts s m e r h

/-- The error cases of `add_days` on a finite offset. -/
theorem ts_addDays_err (ts : Int) (hts : isValidTimestamp ts) (s : Bool) (m : Nat) (e : Int) (err : Err)
    (h : Timestamp.addDays ts (.fin s m e) = .error err) :
    (err = .DateOutOfRange ∧ ∃ q : ℚ,
      |q - F64.val (.fin s m e) * 86400000000| ≤ 2 ^ (-53 : Int) * |F64.val (.fin s m e) * 86400000000| ∧
      ¬ isValidTimestamp (ts + roundHalfAwayQ q)) ∨
    (err = .NumericOverflow ∧ (2 : ℚ) ^ (1023 : Int) ≤ |F64.val (.fin s m e) * 86400000000|) :=
  Accuracy.ts_addDays_err ts hts s m e err h

end SqlDt.C08
