/- GENERATED by tools/gen_audit.py: axiom audit of every theorem of Props/C03. -/
import SqlDt.Props.C03
import SqlDt.Props.C03Format
import SqlDt.Props.C03Rows
import SqlDt.Props.C03Sink
import SqlDt.Props.C03Units

#print axioms SqlDt.C03.tryNewAux_no_panic
#print axioms SqlDt.C03.tryNew_no_panic
#print axioms SqlDt.C03.tryNewAux_error
#print axioms SqlDt.C03.tryFromYmd_no_panic
#print axioms SqlDt.C03.scaling_no_panic
#print axioms SqlDt.C03.addDays_no_panic
#print axioms SqlDt.C03.deBin_no_panic
#print axioms SqlDt.C03.parse_no_panic
#print axioms SqlDt.C03.deStr_no_panic
#print axioms SqlDt.C03.format_np_of_renders
#print axioms SqlDt.C03.format_date_no_panic
#print axioms SqlDt.C03.format_ts_no_panic
#print axioms SqlDt.C03.format_no_panic
#print axioms SqlDt.C03.serStr_no_panic
#print axioms SqlDt.C03Rows.date_tryFromYmd_np
#print axioms SqlDt.C03Rows.date_tryFromDays_np
#print axioms SqlDt.C03Rows.time_tryFromHms_np
#print axioms SqlDt.C03Rows.time_tryFromUsecs_np
#print axioms SqlDt.C03Rows.ts_tryFromUsecs_np
#print axioms SqlDt.C03Rows.ym_tryFromYm_np
#print axioms SqlDt.C03Rows.ym_tryFromMonths_np
#print axioms SqlDt.C03Rows.dt_tryFromDhms_np
#print axioms SqlDt.C03Rows.dt_tryFromUsecs_np
#print axioms SqlDt.C03Rows.od_tryFromUsecs_np
#print axioms SqlDt.C03Rows.date_andHms_np
#print axioms SqlDt.C03Rows.date_addDays_np
#print axioms SqlDt.C03Rows.date_subDays_np
#print axioms SqlDt.C03Rows.date_addIntervalYm_np
#print axioms SqlDt.C03Rows.date_subIntervalYm_np
#print axioms SqlDt.C03Rows.date_addIntervalDt_np
#print axioms SqlDt.C03Rows.date_subIntervalDt_np
#print axioms SqlDt.C03Rows.date_subTime_np
#print axioms SqlDt.C03Rows.date_now_np
#print axioms SqlDt.C03Rows.time_mulF64_np
#print axioms SqlDt.C03Rows.time_divF64_np
#print axioms SqlDt.C03Rows.ts_addIntervalDt_np
#print axioms SqlDt.C03Rows.ts_subIntervalDt_np
#print axioms SqlDt.C03Rows.ts_subIntervalYm_np
#print axioms SqlDt.C03Rows.ts_addTime_np
#print axioms SqlDt.C03Rows.ts_subTime_np
#print axioms SqlDt.C03Rows.ts_subDays_np
#print axioms SqlDt.C03Rows.ts_now_np
#print axioms SqlDt.C03Rows.ts_fromTime_np
#print axioms SqlDt.C03Rows.od_addDays_np
#print axioms SqlDt.C03Rows.ts_oracleAddDays_np
#print axioms SqlDt.C03Rows.ts_oracleSubDays_np
#print axioms SqlDt.C03Rows.ym_add_np
#print axioms SqlDt.C03Rows.ym_sub_np
#print axioms SqlDt.C03Rows.ym_mulF64_np
#print axioms SqlDt.C03Rows.ym_divF64_np
#print axioms SqlDt.C03Rows.dt_add_np
#print axioms SqlDt.C03Rows.dt_sub_np
#print axioms SqlDt.C03Rows.dt_mulF64_np
#print axioms SqlDt.C03Rows.dt_divF64_np
#print axioms SqlDt.C03Rows.dt_subTime_np
#print axioms SqlDt.C03Rows.od_addIntervalDt_np
#print axioms SqlDt.C03Rows.od_subIntervalDt_np
#print axioms SqlDt.C03Rows.od_addIntervalYm_np
#print axioms SqlDt.C03Rows.od_subIntervalYm_np
#print axioms SqlDt.C03Rows.od_addTime_np
#print axioms SqlDt.C03Rows.od_subTime_np
#print axioms SqlDt.C03Rows.od_subDays_np
#print axioms SqlDt.C03Rows.od_fromTime_np
#print axioms SqlDt.C03Rows.od_now_np
#print axioms SqlDt.C03.format_bounded
#print axioms SqlDt.C03.format_bounded_no_panic
#print axioms SqlDt.C03.format_bounded_ok
#print axioms SqlDt.C03.date_trunc_no_panic
#print axioms SqlDt.C03.date_round_no_panic
#print axioms SqlDt.C03.ts_trunc_no_panic
#print axioms SqlDt.C03.od_trunc_no_panic
#print axioms SqlDt.C03.ts_round_no_panic
#print axioms SqlDt.C03.od_round_no_panic
#print axioms SqlDt.C03.date_addMonths_no_panic
#print axioms SqlDt.C03.ts_addMonths_no_panic
