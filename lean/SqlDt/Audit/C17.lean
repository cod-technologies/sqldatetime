/- GENERATED by tools/gen_audit.py: axiom audit of every theorem of Props/C17. -/
import SqlDt.Props.C17

#print axioms SqlDt.C17.midnight_eq
#print axioms SqlDt.C17.date_midnight
#print axioms SqlDt.C17.time_midnight
#print axioms SqlDt.C17.extract_midnight
#print axioms SqlDt.C17.trunc_midnight
#print axioms SqlDt.C17.od_trunc_eq
#print axioms SqlDt.C17.od_round_eq
#print axioms SqlDt.C17.od_lastDay_eq
#print axioms SqlDt.C17.lastDay_midnight
#print axioms SqlDt.C17.addYm_midnight
#print axioms SqlDt.C17.midnight_lt_iff
#print axioms SqlDt.C17.midnight_inj
#print axioms SqlDt.C17.midnight_le_ts_iff
#print axioms SqlDt.C17.shiftHalfDay_midnight
#print axioms SqlDt.C17.round_midnight
#print axioms SqlDt.C17.sub_midnight
#print axioms SqlDt.C17.addDays_midnight
