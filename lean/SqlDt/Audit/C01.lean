/- GENERATED by tools/gen_audit.py: axiom audit of every theorem of Props/C01. -/
import SqlDt.Props.C01

#print axioms SqlDt.C01.tryFromDays_spec
#print axioms SqlDt.C01.dayOfWeek_eq
#print axioms SqlDt.C01.dayOfWeek_epoch
#print axioms SqlDt.C01.dayOfWeek_succ
#print axioms SqlDt.C01.dayOfWeek_range
#print axioms SqlDt.C01.tryFromYmd_classify
#print axioms SqlDt.C01.isValid_iff_tryFromYmd_ok
#print axioms SqlDt.C01.daysOfMonth_spec
#print axioms SqlDt.C01.isLeapYear_spec
#print axioms SqlDt.C01.tryFromYmd_of_fields
#print axioms SqlDt.C01.tryFromYmd_valid
#print axioms SqlDt.C01.extract_roundtrip
#print axioms SqlDt.C01.tryFromYmd_roundtrip
#print axioms SqlDt.C01.tryFromYmd_eq_ok
#print axioms SqlDt.C01.tryFromYmd_ok_iff
#print axioms SqlDt.C01.tryFromYmd_ok_valid
#print axioms SqlDt.C01.extract_succ
#print axioms SqlDt.C01.extract_min
#print axioms SqlDt.C01.extract_max
#print axioms SqlDt.C01.order_iff_lex
