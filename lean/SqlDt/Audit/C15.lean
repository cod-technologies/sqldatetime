/- GENERATED by tools/gen_audit.py: axiom audit of every theorem of Props/C15. -/
import SqlDt.Props.C15

#print axioms SqlDt.C15.deBin_eq
#print axioms SqlDt.C15.deBin_valid
#print axioms SqlDt.C15.deBin_serBin
#print axioms SqlDt.C15.serStr_ok
#print axioms SqlDt.C15.deStr_serStr
#print axioms SqlDt.C15.human_roundtrip
#print axioms SqlDt.C15.deStr_valid
