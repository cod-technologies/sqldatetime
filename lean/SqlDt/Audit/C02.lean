/- GENERATED by tools/gen_audit.py: axiom audit of every theorem of Props/C02. -/
import SqlDt.Props.C02
import SqlDt.Props.C02Parse
import SqlDt.Props.C02Rows

#print axioms SqlDt.C02.date_tryFromDays
#print axioms SqlDt.C02.time_tryFromUsecs
#print axioms SqlDt.C02.ts_tryFromUsecs
#print axioms SqlDt.C02.ym_tryFromMonths
#print axioms SqlDt.C02.dt_tryFromUsecs
#print axioms SqlDt.C02.od_tryFromUsecs
#print axioms SqlDt.C02.date_addDays
#print axioms SqlDt.C02.date_subDays
#print axioms SqlDt.C02.ts_addIntervalDt
#print axioms SqlDt.C02.ts_subIntervalDt
#print axioms SqlDt.C02.ts_addTime
#print axioms SqlDt.C02.ts_subTime
#print axioms SqlDt.C02.ts_addDays
#print axioms SqlDt.C02.ym_add
#print axioms SqlDt.C02.dt_add
#print axioms SqlDt.C02.dt_subTime
#print axioms SqlDt.C02.ts_new
#print axioms SqlDt.C02.ts_extract
#print axioms SqlDt.C02.time_tryFromHms
#print axioms SqlDt.C02.time_addIntervalDt
#print axioms SqlDt.C02.time_subIntervalDt
#print axioms SqlDt.C02.time_subTime
#print axioms SqlDt.C02.time_fromIntervalDt
#print axioms SqlDt.C02.ts_subTimestamp
#print axioms SqlDt.C02.ts_subDate
#print axioms SqlDt.C02.ym_tryFromYm
#print axioms SqlDt.C02.dt_tryFromDhms
#print axioms SqlDt.C02.ym_negate
#print axioms SqlDt.C02.dt_negate
#print axioms SqlDt.C02.dt_mulF64
#print axioms SqlDt.C02.ym_mulF64
#print axioms SqlDt.C02.od_fromTimestamp
#print axioms SqlDt.C02.od_new
#print axioms SqlDt.C02.od_addDays
#print axioms SqlDt.C02.od_addIntervalDt
#print axioms SqlDt.C02.date_tryFromYmd
#print axioms SqlDt.C02.date_trunc
#print axioms SqlDt.C02.date_round
#print axioms SqlDt.C02.date_lastDay
#print axioms SqlDt.C02.date_addMonths
#print axioms SqlDt.C02.ts_trunc
#print axioms SqlDt.C02.ts_round
#print axioms SqlDt.C02.ts_lastDay
#print axioms SqlDt.C02.ts_addMonths
#print axioms SqlDt.C02.od_of_ts
#print axioms SqlDt.C02.od_trunc
#print axioms SqlDt.C02.od_round
#print axioms SqlDt.C02.od_addMonths
#print axioms SqlDt.C02.od_lastDay
#print axioms SqlDt.C02.date_now
#print axioms SqlDt.C02.ts_now
#print axioms SqlDt.C02.ts_fromTime
#print axioms SqlDt.C02.parse_valid
#print axioms SqlDt.C02.parseValue_valid
#print axioms SqlDt.C02.deStr_valid
#print axioms SqlDt.C02Rows.time_zero_valid
#print axioms SqlDt.C02Rows.od_toTimestamp
#print axioms SqlDt.C02Rows.dt_fromTime
#print axioms SqlDt.C02Rows.date_toTimestamp
#print axioms SqlDt.C02Rows.date_andHms
#print axioms SqlDt.C02Rows.date_andTime
#print axioms SqlDt.C02Rows.date_addTime
#print axioms SqlDt.C02Rows.date_addIntervalYm
#print axioms SqlDt.C02Rows.date_subIntervalYm
#print axioms SqlDt.C02Rows.date_addIntervalDt
#print axioms SqlDt.C02Rows.date_subIntervalDt
#print axioms SqlDt.C02Rows.date_subTime
#print axioms SqlDt.C02Rows.date_subTimestamp
#print axioms SqlDt.C02Rows.dt_divF64
#print axioms SqlDt.C02Rows.time_mulF64
#print axioms SqlDt.C02Rows.time_divF64
#print axioms SqlDt.C02Rows.time_fromTimestamp
#print axioms SqlDt.C02Rows.time_fromOracleDate
#print axioms SqlDt.C02Rows.ts_subIntervalYm
#print axioms SqlDt.C02Rows.ts_subDays
#print axioms SqlDt.C02Rows.ts_oracleSubDate
#print axioms SqlDt.C02Rows.ts_oracleAddDays
#print axioms SqlDt.C02Rows.ts_oracleSubDays
#print axioms SqlDt.C02Rows.ym_sub
#print axioms SqlDt.C02Rows.ym_divF64
#print axioms SqlDt.C02Rows.dt_sub
#print axioms SqlDt.C02Rows.od_extract
#print axioms SqlDt.C02Rows.od_subIntervalDt
#print axioms SqlDt.C02Rows.od_subIntervalYm
#print axioms SqlDt.C02Rows.od_addTime
#print axioms SqlDt.C02Rows.od_subTime
#print axioms SqlDt.C02Rows.od_subDays
#print axioms SqlDt.C02Rows.od_subTimestamp
#print axioms SqlDt.C02Rows.od_fromTime
#print axioms SqlDt.C02Rows.od_now
#print axioms SqlDt.C02Rows.date_extract_fields
#print axioms SqlDt.C02Rows.date_dayOfWeek_range
#print axioms SqlDt.C02Rows.time_extract_fields
#print axioms SqlDt.C02Rows.ym_extract_fields
#print axioms SqlDt.C02Rows.dt_extract_fields
