/- GENERATED by tools/gen_audit.py: axiom audit of every theorem of Props/C09. -/
import SqlDt.Props.C09

#print axioms SqlDt.C09.monthCarry_floor
#print axioms SqlDt.C09.monthCarry_month_range
#print axioms SqlDt.C09.monthCarry_no_overflow
#print axioms SqlDt.C09.ts_sub_eq_add_neg
#print axioms SqlDt.C09.od_sub_eq_add_neg
#print axioms SqlDt.C09.ts_addIntervalYm_eq
#print axioms SqlDt.C09.monthCarry_zero
#print axioms SqlDt.C09.monthCarry_inverse
#print axioms SqlDt.C09.addMonths_spec
#print axioms SqlDt.C09.lastDayOfMonth_spec
#print axioms SqlDt.C09.ts_lastDayOfMonth_spec
#print axioms SqlDt.C09.addMonths_ok_valid
