/- GENERATED by tools/gen_audit.py: axiom audit of every theorem of Props/C16. -/
import SqlDt.Props.C16
import SqlDt.Props.C16Accuracy

#print axioms SqlDt.C16.isValidDate_iff
#print axioms SqlDt.C16.fromTimestamp_floor
#print axioms SqlDt.C16.fromTimestamp_valid
#print axioms SqlDt.C16.fromTimestamp_greatest
#print axioms SqlDt.C16.fromTimestamp_id
#print axioms SqlDt.C16.new_eq
#print axioms SqlDt.C16.new_valid
#print axioms SqlDt.C16.addIntervalDt_eq
#print axioms SqlDt.C16.addIntervalYm_eq
#print axioms SqlDt.C16.roundToSecond_spec
#print axioms SqlDt.C16.addDays_eq
#print axioms SqlDt.C16.addDays_valid
#print axioms SqlDt.C16.tryFromUsecs_spec
#print axioms SqlDt.C16.subDate_correctly_rounded
#print axioms SqlDt.C16.MAX_eq
#print axioms SqlDt.C16.roundToSecond_nearest
#print axioms SqlDt.C16.od_addDays_accuracy
#print axioms SqlDt.C16.od_addDays_ok
