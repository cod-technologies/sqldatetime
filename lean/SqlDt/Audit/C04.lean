/- GENERATED by tools/gen_audit.py: axiom audit of every theorem of Props/C04. -/
import SqlDt.Props.C04

#print axioms SqlDt.C04.month_table
#print axioms SqlDt.C04.hour_table
#print axioms SqlDt.C04.day_table
#print axioms SqlDt.C04.minute_second_table
#print axioms SqlDt.C04.day_of_week_table
#print axioms SqlDt.C04.day_of_year_table
#print axioms SqlDt.C04.week_of_month_table
#print axioms SqlDt.C04.week_of_year_table
#print axioms SqlDt.C04.month_name_table
#print axioms SqlDt.C04.day_name_table
#print axioms SqlDt.C04.ampm_text
#print axioms SqlDt.C04.writeU32_pad
#print axioms SqlDt.C04.sum_of_days_table
#print axioms SqlDt.C04.formatField_eq_render
#print axioms SqlDt.C04.format_eq_render
#print axioms SqlDt.C04.from_picture
#print axioms SqlDt.C04.format_date
#print axioms SqlDt.C04.format_time
#print axioms SqlDt.C04.format_timestamp
#print axioms SqlDt.C04.format_interval_ym
#print axioms SqlDt.C04.format_interval_dt
