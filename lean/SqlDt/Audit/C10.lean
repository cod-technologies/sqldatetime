/- GENERATED by tools/gen_audit.py: axiom audit of every theorem of Props/C10. -/
import SqlDt.Props.C10

#print axioms SqlDt.C10B.greatest_unique
#print axioms SqlDt.C10B.greatest_idem
#print axioms SqlDt.C10B.greatest_mono
#print axioms SqlDt.C10.date_trunc
#print axioms SqlDt.C10.min_is_boundary
#print axioms SqlDt.C10.date_trunc_ok
#print axioms SqlDt.C10.date_trunc_le
#print axioms SqlDt.C10.date_trunc_mono
#print axioms SqlDt.C10.date_trunc_idem
#print axioms SqlDt.C10.ts_trunc
#print axioms SqlDt.C10.od_trunc
#print axioms SqlDt.C10.ts_trunc_day
#print axioms SqlDt.C10.ts_trunc_hour
#print axioms SqlDt.C10.ts_trunc_minute
#print axioms SqlDt.C10.date_trunc_sundayWeek_fails_iff'
