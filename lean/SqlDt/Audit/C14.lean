/- GENERATED by tools/gen_audit.py: axiom audit of every theorem of Props/C14. -/
import SqlDt.Props.C14
import SqlDt.Props.C14Accuracy

#print axioms SqlDt.C14.scaleOutcome_valid
#print axioms SqlDt.C14.dt_mul_classify
#print axioms SqlDt.C14.dt_div_classify
#print axioms SqlDt.C14.dt_div_zero
#print axioms SqlDt.C14.ym_mul_classify
#print axioms SqlDt.C14.ym_div_classify
#print axioms SqlDt.C14.ym_div_zero
#print axioms SqlDt.C14.dt_mul_nan
#print axioms SqlDt.C14.dt_div_nan
#print axioms SqlDt.C14.dt_mul_valid
#print axioms SqlDt.C14.ym_mul_valid
#print axioms SqlDt.C14.dt_div_valid
#print axioms SqlDt.C14.ym_div_valid
#print axioms SqlDt.C14.toI64_trunc
#print axioms SqlDt.C14.dt_mul_integer_exact
#print axioms SqlDt.C14.ym_mul_integer_exact
#print axioms SqlDt.C14.mul_sign_symmetry
#print axioms SqlDt.C14.trunc_neg
#print axioms SqlDt.C14.rounding_half_ulp
#print axioms SqlDt.C14.rounding_relative_error
#print axioms SqlDt.C14.cast_value
#print axioms SqlDt.C14.rounding_half_ulp_rat
#print axioms SqlDt.C14.rounding_relative_normal
#print axioms SqlDt.C14.conversion_accuracy
#print axioms SqlDt.C14.dt_mul_accuracy
#print axioms SqlDt.C14.dt_mul_accuracy_normal
#print axioms SqlDt.C14.dt_mul_ok
#print axioms SqlDt.C14.dt_mul_err
#print axioms SqlDt.C14.dt_div_accuracy
#print axioms SqlDt.C14.dt_div_ok
#print axioms SqlDt.C14.ym_mul_accuracy
#print axioms SqlDt.C14.ym_mul_ok
#print axioms SqlDt.C14.ym_div_accuracy
#print axioms SqlDt.C14.ym_div_ok
