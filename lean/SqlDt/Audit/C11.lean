/- GENERATED by tools/gen_audit.py: axiom audit of every theorem of Props/C11. -/
import SqlDt.Props.C11

#print axioms SqlDt.C11.date_round_partial
#print axioms SqlDt.C11.round_adjacent
#print axioms SqlDt.C11.round_fixed
#print axioms SqlDt.C11.round_midpoints
#print axioms SqlDt.C11.round_mono
#print axioms SqlDt.C11.round_fails_iff
#print axioms SqlDt.C11.ts_round_partial
#print axioms SqlDt.C11.od_round
#print axioms SqlDt.C11.round_century_deviation
#print axioms SqlDt.C11.roundCentury_counterexample
#print axioms SqlDt.C11.roundSundayWeek_counterexample
#print axioms SqlDt.C11.ts_round_day
#print axioms SqlDt.C11B.ts_round_day_adjacent
#print axioms SqlDt.C11B.date_round_isoWeek
#print axioms SqlDt.C11B.roundCentury_counterexample
#print axioms SqlDt.C11B.roundSundayWeek_counterexample
