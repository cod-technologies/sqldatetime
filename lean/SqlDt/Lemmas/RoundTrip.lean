/-
  Lemmas/RoundTrip: the human-readable serde form (C15).  The six fixed pictures are lossless, so their round trip is an
  instance of `format_parse`; what is particular to them is that the text fits the 32-byte buffer.
-/
import SqlDt.Lemmas.ReadingRoundTrip
namespace SqlDt.Lemmas
open Spec

def serdeFields : Ty → List Field
  | .D => [.Year 4, .Hyphen, .Month, .Hyphen, .Day]
  | .T => [.Hour24, .Colon, .Minute, .Colon, .Second, .Dot, .Fraction (some 6)]
  | .TS => [.Year 4, .Hyphen, .Month, .Hyphen, .Day, .Blank 1, .Hour24, .Colon, .Minute, .Colon, .Second, .Dot,
      .Fraction (some 6)]
  | .YM => [.Year 4, .Hyphen, .Month]
  | .DT => [.Day, .Blank 1, .Hour24, .Colon, .Minute, .Colon, .Second, .Dot, .Fraction (some 6)]
  | .OD => [.Year 4, .Hyphen, .Month, .Hyphen, .Day, .Blank 1, .Hour24, .Colon, .Minute, .Colon, .Second]

theorem tryNew_serde (ty : Ty) : Lexer.tryNew (Serde.picture ty) = .ok (serdeFields ty) := by
  cases ty <;> decide +kernel

theorem serde_lossless (ty : Ty) : Lossless ty (serdeFields ty) = true := by cases ty <;> decide

theorem pad_len2 (x : Int) (h : 0 ≤ x ∧ x ≤ 99) : (pad 2 x.toNat).length = 2 :=
  pad_length 2 _ (by decide) (by omega)

theorem pad_len10 (w : Nat) (x : Int) (hw : w ≤ 10) (h : 0 ≤ x ∧ x ≤ 4294967295) : (pad w x.toNat).length ≤ 10 :=
  pad_length_le w 10 _ hw (by decide) (by omega)

/-- The sign is at most one byte. -/
theorem render_fits {ty : Ty} {c : Comps} {fields : List Field} {body : Bytes} {n : Nat}
    (h : renderAll ty c fields = some body) (hl : body.length < n) : ∃ t, render ty c fields = some t ∧ t.length ≤ n := by
  refine ⟨_, by rw [render, h]; rfl, ?_⟩
  rw [List.length_append]
  split
  · show 1 + body.length ≤ n; omega
  · split
    · show 1 + body.length ≤ n; omega
    · show 0 + body.length ≤ n; omega

/-- The serialised text exists and fits: two digits for month, day, hour, minute and second, four for the year of a
    date, and no more than ten – a `u32` – for the leading field of an interval and for the fraction. -/
theorem serde_fits {ty : Ty} {v : Int} {c : Comps} (h : Renders ty v c) :
    ∃ t, render ty c (serdeFields ty) = some t ∧ t.length ≤ 32 := by
  obtain ⟨ha, hf, _⟩ := h
  have lmo := pad_len2 c.month (by have := ha.monthR; omega)
  have lh := pad_len2 c.hour (by have := ha.hourR; omega)
  have lmi := pad_len2 c.minute (by have := ha.minuteR; omega)
  have ls := pad_len2 c.sec (by have := ha.secR; omega)
  have lf := pad_len10 6 _ (by decide) (hf 6 (by decide)).2
  have ly := pad_len10 4 _ (by decide) ha.yearR
  have ld := pad_len10 2 _ (by decide) ha.dayR
  have ly4 : (pad 4 (c.year % ((10 ^ 4 : Nat) : Int)).toNat).length = 4 := pad_length 4 _ (by decide) (by omega)
  have ld2 : (ty = .D ∨ ty = .TS ∨ ty = .OD) → (pad 2 c.day.toNat).length = 2 := fun hd =>
    pad_len2 c.day (by have := ha.date hd; omega)
  -- the body is computed from the picture; its length is the sum of the lengths above and the one-byte separators
  cases ty <;> refine render_fits rfl ?_ <;> simp at ld2 <;>
    simp only [List.length_append, List.length_cons, List.length_nil, List.length_replicate, Option.getD_some] <;> omega

/-- The serde route below its error mapping: through the type's picture and the 32-byte buffer, formatting gives a text
    that fits and parsing that text gives the value back. -/
theorem serde_roundtrip (ty : Ty) (v : Int) (hv : ty.Valid v) :
    ∃ text, formatValue ty v (Serde.picture ty) (some Serde.BUF_CAP) = .ok text ∧ text.length ≤ 32 ∧
      ∀ now, ∃ r, parseValue ty text (Serde.picture ty) now = .ok (v, r) := by
  obtain ⟨c, hc⟩ := renders_exists ty v hv
  obtain ⟨t, hr, hl⟩ := serde_fits hc
  have hwf := tryNew_wf _ _ (tryNew_serde ty)
  refine ⟨t, ?_, hl, fun now => ?_⟩
  · rw [hc.formatValue, tryNew_serde]
    show toChkCap _ (render ty c (serdeFields ty)) = _
    -- `hl` speaks of 32, the gate of `Serde.BUF_CAP` (regenerated from the source): equal by evaluation, checked here
    rw [hr]; exact if_pos (decide_eq_true hl)
  · obtain ⟨r, hp⟩ := format_parse ty v hv _ hwf (serde_lossless ty) now t (by rw [hc.format _ hwf, hr]; rfl)
    exact ⟨r, by rw [parseValue, tryNew_serde]; exact hp⟩

theorem serStr_ok (ty : Ty) (v : Int) (hv : ty.Valid v) : ∃ text, Serde.serStr ty v = .ok text ∧ text.length ≤ 32 := by
  obtain ⟨t, a, b, _⟩ := serde_roundtrip ty v hv
  exact ⟨t, by rw [Serde.serStr, a], b⟩

theorem deStr_serStr (ty : Ty) (v : Int) (hv : ty.Valid v) (now : Clock) (text : Bytes)
    (h : Serde.serStr ty v = .ok text) : Serde.deStr ty text now = .ok v := by
  obtain ⟨t, a, _, c⟩ := serde_roundtrip ty v hv
  obtain ⟨r, hp⟩ := c now
  rw [Serde.serStr, a] at h
  cases h
  rw [Serde.deStr, hp]

end SqlDt.Lemmas
