/-
  Lemmas/TranslatedUnitsTsSafe (hand-written, stable): the safety predicates `Tr.f_safe` of the
  calendar units of `Timestamp` and of the Oracle wrappers proved in Lemmas/TranslatedUnitsTs, for a VALID receiver
  (`isValidTimestamp ts` / `OracleDate.isValidDate od`).  Same namespace (`SqlDt.TrSafe`) and attribute (`tr_safe`) as
  Lemmas/TranslatedSafe.

  What the proofs need beyond the callees' theorems: the value a unit returns is again a valid date / timestamp (so that
  `and_zero_time` / `from_timestamp` are applied to a valid value).  Those facts are in Lemmas/TranslatedFacts (from
  Lemmas/UnitsModel: the model's units compute the range-checked closed forms of Spec/Units).
-/
import SqlDt.Lemmas.TranslatedUnitsSafe
import SqlDt.Lemmas.TranslatedUnitsTs
namespace SqlDt.TrSafe
open SqlDt SqlDt.Gen SqlDt.TrTactic SqlDt.TrEq SqlDt.TrEq.TsU SqlDt.TrEq.IsoU

namespace TsU

/-- the two internal helpers of the week roundings as the `Timestamp` units call them: on a valid date with the year /
    the day of the month of that date (their CONTRACT hypotheses then hold) -/
theorem round_week_internal_safe_of_valid (d : Int) (hd : isValidDate d) :
    Tr.Date.round_week_internal_safe d (Date.extract d).1 := by
  have hx := extract_valid d hd
  exact Date.round_week_internal_safe d _ hd ⟨by omega, by omega⟩ (first_of_year_le d hd) (first_of_year_valid d hd)

theorem round_month_start_week_internal_safe_of_valid (d : Int) (hd : isValidDate d) :
    Tr.Date.round_month_start_week_internal_safe d (Date.extract d).2.2 := by
  have hx := extract_valid d hd
  exact Date.round_month_start_week_internal_safe d _ hd (by unfold fitsI32 I32_MIN I32_MAX; omega) (by omega)

end TsU
open TsU

set_option hygiene false in
/-- after a `split` of `match f args with | .ok r => …`: what the case hypothesis tells about the bound result -/
macro "tr_ts_sfacts" : tactic => `(tactic| (
  try (rename_i hcase
       with_reducible first
       | ((first
            | have hv1 := addDays_ok_valid _ _ _ hcase
            | have hv1 := ite_addDays_ok_valid _ _ _ _ (by with_reducible assumption) hcase)
          have hr1 := valid_date_range' _ hv1
          have hx1 := extract_valid _ hv1
          have hf1 := first_of_year_le _ hv1)
       | (have hv2 := roundWeekInternal_ok_valid _ _ _ (by with_reducible assumption) hcase)
       | (have hv2 := roundMonthStartWeekInternal_ok_valid _ _ _ (by with_reducible assumption) hcase)
       | (have hv2 := Lemmas.dayGate_valid (Lemmas.date_trunc_gate _ _ (by with_reducible assumption)) hcase)
       | (have hv2 := Lemmas.dayGate_valid (Lemmas.date_round_gate _ _ (by with_reducible assumption)) hcase)
       | (have hv2 := Lemmas.tsGate_valid (Lemmas.ts_trunc_gate _ _ (by with_reducible assumption)) hcase)
       | (have hv2 := Lemmas.tsGate_valid (Lemmas.ts_round_gate _ _ (by with_reducible assumption)) hcase))))

/-- The units of `Timestamp` / `oracle::Date` are calls only: conjunct by conjunct, each callee predicate is cited as soon
    as its side conditions can be met (the `simp`); a `match` on a callee's result is split and the validity of
    the result recorded (`tr_ts_sfacts`), which is what the callees behind it ask for.  What is arithmetic goes to
    `tr_safe_auto`. -/
macro "tr_ts_sauto" : tactic => `(tactic| (
  repeat' (first
    | exact True.intro
    | simp (disch := first | (with_reducible assumption) | tr_sdisch) only [tr_eq, tr_safe, hour_cast, asI32_eq,
        round_week_internal_safe_of_valid, round_month_start_week_internal_safe_of_valid, true_and, and_true, implies_true]
    | dsimp only
    | with_reducible apply And.intro
    | with_reducible intro _
    | (split <;> tr_ts_sfacts))
  all_goals tr_safe_auto))


set_option hygiene false in
/-- A unit of a valid timestamp (for `oracle::Date`: of its timestamp): its range and the validity of its date, from
    which the callees' side conditions are discharged; the time of day as quotients; then `tr_ts_sauto`.  Unhygienic:
    `hts` then replaces the caller's hypothesis of that name instead of standing beside it (what `omega` is handed stays small). -/
macro "tr_ts_safe" ts:ident hts:term : tactic => `(tactic| (
  have hts : isValidTimestamp $ts := $hts
  have hb := (isValidTimestamp_iff $ts).1 hts
  have hv := valid_ts_date' $ts hts
  have hr := valid_date_range' _ hv
  try simp (disch := omega) only [SqlDt.TrEq.Timestamp.time_eq, SqlDt.Timestamp.time_eq, SqlDt.TrEq.Time.extract_eq,
    SqlDt.Time.extract_eq]
  tr_ts_sauto))

@[tr_safe] theorem Timestamp.trunc_century_safe (ts : Int) (hts : isValidTimestamp ts) : Tr.Timestamp.trunc_century_safe ts := by
  unfold Tr.Timestamp.trunc_century_safe
  tr_ts_safe ts hts

@[tr_safe] theorem Timestamp.trunc_year_safe (ts : Int) (hts : isValidTimestamp ts) : Tr.Timestamp.trunc_year_safe ts := by
  unfold Tr.Timestamp.trunc_year_safe
  tr_ts_safe ts hts

@[tr_safe] theorem Timestamp.trunc_quarter_safe (ts : Int) (hts : isValidTimestamp ts) : Tr.Timestamp.trunc_quarter_safe ts := by
  unfold Tr.Timestamp.trunc_quarter_safe
  tr_ts_safe ts hts

@[tr_safe] theorem Timestamp.trunc_month_safe (ts : Int) (hts : isValidTimestamp ts) : Tr.Timestamp.trunc_month_safe ts := by
  unfold Tr.Timestamp.trunc_month_safe
  tr_ts_safe ts hts

@[tr_safe] theorem Timestamp.trunc_week_safe (ts : Int) (hts : isValidTimestamp ts) : Tr.Timestamp.trunc_week_safe ts := by
  unfold Tr.Timestamp.trunc_week_safe
  tr_ts_safe ts hts

@[tr_safe] theorem Timestamp.trunc_iso_week_safe (ts : Int) (hts : isValidTimestamp ts) : Tr.Timestamp.trunc_iso_week_safe ts := by
  unfold Tr.Timestamp.trunc_iso_week_safe
  tr_ts_safe ts hts

@[tr_safe] theorem Timestamp.trunc_month_start_week_safe (ts : Int) (hts : isValidTimestamp ts) : Tr.Timestamp.trunc_month_start_week_safe ts := by
  unfold Tr.Timestamp.trunc_month_start_week_safe
  tr_ts_safe ts hts

@[tr_safe] theorem Timestamp.trunc_sunday_start_week_safe (ts : Int) (hts : isValidTimestamp ts) : Tr.Timestamp.trunc_sunday_start_week_safe ts := by
  unfold Tr.Timestamp.trunc_sunday_start_week_safe
  tr_ts_safe ts hts

@[tr_safe] theorem Timestamp.round_century_safe (ts : Int) (hts : isValidTimestamp ts) : Tr.Timestamp.round_century_safe ts := by
  unfold Tr.Timestamp.round_century_safe
  tr_ts_safe ts hts

@[tr_safe] theorem Timestamp.round_year_safe (ts : Int) (hts : isValidTimestamp ts) : Tr.Timestamp.round_year_safe ts := by
  unfold Tr.Timestamp.round_year_safe
  tr_ts_safe ts hts

@[tr_safe] theorem Timestamp.round_quarter_safe (ts : Int) (hts : isValidTimestamp ts) : Tr.Timestamp.round_quarter_safe ts := by
  unfold Tr.Timestamp.round_quarter_safe
  tr_ts_safe ts hts

@[tr_safe] theorem Timestamp.round_month_safe (ts : Int) (hts : isValidTimestamp ts) : Tr.Timestamp.round_month_safe ts := by
  unfold Tr.Timestamp.round_month_safe
  tr_ts_safe ts hts

@[tr_safe] theorem Timestamp.round_week_safe (ts : Int) (hts : isValidTimestamp ts) : Tr.Timestamp.round_week_safe ts := by
  unfold Tr.Timestamp.round_week_safe
  -- The four week roundings (and `round_day`) take the timestamp apart with `extract()`: the facts of `tr_ts_safe` in
  -- that form, with the first day of the year (for `round_week`) and the day of the month (`round_month_start_week`).
  have hb := (isValidTimestamp_iff ts).1 hts
  have hx := ts_extract_time_range ts
  have hv := Timestamp.extract_date_valid ts hts
  have hr := valid_date_range' _ hv
  have hxv := extract_valid _ hv
  have hf := first_of_year_le _ hv
  tr_ts_sauto

@[tr_safe] theorem Timestamp.round_iso_week_safe (ts : Int) (hts : isValidTimestamp ts) : Tr.Timestamp.round_iso_week_safe ts := by
  unfold Tr.Timestamp.round_iso_week_safe
  have hb := (isValidTimestamp_iff ts).1 hts
  have hx := ts_extract_time_range ts
  have hv := Timestamp.extract_date_valid ts hts
  have hr := valid_date_range' _ hv
  have hxv := extract_valid _ hv
  have hf := first_of_year_le _ hv
  tr_ts_sauto

@[tr_safe] theorem Timestamp.round_month_start_week_safe (ts : Int) (hts : isValidTimestamp ts) : Tr.Timestamp.round_month_start_week_safe ts := by
  unfold Tr.Timestamp.round_month_start_week_safe
  have hb := (isValidTimestamp_iff ts).1 hts
  have hx := ts_extract_time_range ts
  have hv := Timestamp.extract_date_valid ts hts
  have hr := valid_date_range' _ hv
  have hxv := extract_valid _ hv
  have hf := first_of_year_le _ hv
  tr_ts_sauto

@[tr_safe] theorem Timestamp.round_sunday_start_week_safe (ts : Int) (hts : isValidTimestamp ts) : Tr.Timestamp.round_sunday_start_week_safe ts := by
  unfold Tr.Timestamp.round_sunday_start_week_safe
  have hb := (isValidTimestamp_iff ts).1 hts
  have hx := ts_extract_time_range ts
  have hv := Timestamp.extract_date_valid ts hts
  have hr := valid_date_range' _ hv
  have hxv := extract_valid _ hv
  have hf := first_of_year_le _ hv
  tr_ts_sauto

@[tr_safe] theorem Timestamp.round_day_safe (ts : Int) (hts : isValidTimestamp ts) : Tr.Timestamp.round_day_safe ts := by
  unfold Tr.Timestamp.round_day_safe
  have hv' := Timestamp.extract_date_valid ts hts
  tr_ts_safe ts hts

@[tr_safe] theorem Timestamp.round_hour_safe (ts : Int) (hts : isValidTimestamp ts) : Tr.Timestamp.round_hour_safe ts := by
  unfold Tr.Timestamp.round_hour_safe
  tr_ts_safe ts hts

@[tr_safe] theorem Timestamp.round_minute_safe (ts : Int) (hts : isValidTimestamp ts) : Tr.Timestamp.round_minute_safe ts := by
  unfold Tr.Timestamp.round_minute_safe
  tr_ts_safe ts hts

@[tr_safe] theorem OracleDate.trunc_century_safe (od : Int) (hod : OracleDate.isValidDate od) : Tr.OracleDate.trunc_century_safe od := by
  unfold Tr.OracleDate.trunc_century_safe
  tr_ts_safe od hod.1

@[tr_safe] theorem OracleDate.trunc_year_safe (od : Int) (hod : OracleDate.isValidDate od) : Tr.OracleDate.trunc_year_safe od := by
  unfold Tr.OracleDate.trunc_year_safe
  tr_ts_safe od hod.1

@[tr_safe] theorem OracleDate.trunc_quarter_safe (od : Int) (hod : OracleDate.isValidDate od) : Tr.OracleDate.trunc_quarter_safe od := by
  unfold Tr.OracleDate.trunc_quarter_safe
  tr_ts_safe od hod.1

@[tr_safe] theorem OracleDate.trunc_month_safe (od : Int) (hod : OracleDate.isValidDate od) : Tr.OracleDate.trunc_month_safe od := by
  unfold Tr.OracleDate.trunc_month_safe
  tr_ts_safe od hod.1

@[tr_safe] theorem OracleDate.trunc_week_safe (od : Int) (hod : OracleDate.isValidDate od) : Tr.OracleDate.trunc_week_safe od := by
  unfold Tr.OracleDate.trunc_week_safe
  tr_ts_safe od hod.1

@[tr_safe] theorem OracleDate.trunc_iso_week_safe (od : Int) (hod : OracleDate.isValidDate od) : Tr.OracleDate.trunc_iso_week_safe od := by
  unfold Tr.OracleDate.trunc_iso_week_safe
  tr_ts_safe od hod.1

@[tr_safe] theorem OracleDate.trunc_month_start_week_safe (od : Int) (hod : OracleDate.isValidDate od) : Tr.OracleDate.trunc_month_start_week_safe od := by
  unfold Tr.OracleDate.trunc_month_start_week_safe
  tr_ts_safe od hod.1

@[tr_safe] theorem OracleDate.trunc_day_safe (od : Int) (hod : OracleDate.isValidDate od) : Tr.OracleDate.trunc_day_safe od := by
  unfold Tr.OracleDate.trunc_day_safe
  tr_ts_safe od hod.1

@[tr_safe] theorem OracleDate.trunc_sunday_start_week_safe (od : Int) (hod : OracleDate.isValidDate od) : Tr.OracleDate.trunc_sunday_start_week_safe od := by
  unfold Tr.OracleDate.trunc_sunday_start_week_safe
  tr_ts_safe od hod.1

@[tr_safe] theorem OracleDate.trunc_hour_safe (od : Int) (hod : OracleDate.isValidDate od) : Tr.OracleDate.trunc_hour_safe od := by
  unfold Tr.OracleDate.trunc_hour_safe
  tr_ts_safe od hod.1

@[tr_safe] theorem OracleDate.trunc_minute_safe (od : Int) (hod : OracleDate.isValidDate od) : Tr.OracleDate.trunc_minute_safe od := by
  unfold Tr.OracleDate.trunc_minute_safe
  tr_ts_safe od hod.1

@[tr_safe] theorem OracleDate.round_century_safe (od : Int) (hod : OracleDate.isValidDate od) : Tr.OracleDate.round_century_safe od := by
  unfold Tr.OracleDate.round_century_safe
  tr_ts_safe od hod.1

@[tr_safe] theorem OracleDate.round_year_safe (od : Int) (hod : OracleDate.isValidDate od) : Tr.OracleDate.round_year_safe od := by
  unfold Tr.OracleDate.round_year_safe
  tr_ts_safe od hod.1

@[tr_safe] theorem OracleDate.round_quarter_safe (od : Int) (hod : OracleDate.isValidDate od) : Tr.OracleDate.round_quarter_safe od := by
  unfold Tr.OracleDate.round_quarter_safe
  tr_ts_safe od hod.1

@[tr_safe] theorem OracleDate.round_month_safe (od : Int) (hod : OracleDate.isValidDate od) : Tr.OracleDate.round_month_safe od := by
  unfold Tr.OracleDate.round_month_safe
  tr_ts_safe od hod.1

@[tr_safe] theorem OracleDate.round_week_safe (od : Int) (hod : OracleDate.isValidDate od) : Tr.OracleDate.round_week_safe od := by
  unfold Tr.OracleDate.round_week_safe
  tr_ts_safe od hod.1

@[tr_safe] theorem OracleDate.round_iso_week_safe (od : Int) (hod : OracleDate.isValidDate od) : Tr.OracleDate.round_iso_week_safe od := by
  unfold Tr.OracleDate.round_iso_week_safe
  tr_ts_safe od hod.1

@[tr_safe] theorem OracleDate.round_month_start_week_safe (od : Int) (hod : OracleDate.isValidDate od) : Tr.OracleDate.round_month_start_week_safe od := by
  unfold Tr.OracleDate.round_month_start_week_safe
  tr_ts_safe od hod.1

@[tr_safe] theorem OracleDate.round_day_safe (od : Int) (hod : OracleDate.isValidDate od) : Tr.OracleDate.round_day_safe od := by
  unfold Tr.OracleDate.round_day_safe
  tr_ts_safe od hod.1

@[tr_safe] theorem OracleDate.round_sunday_start_week_safe (od : Int) (hod : OracleDate.isValidDate od) : Tr.OracleDate.round_sunday_start_week_safe od := by
  unfold Tr.OracleDate.round_sunday_start_week_safe
  tr_ts_safe od hod.1

@[tr_safe] theorem OracleDate.round_hour_safe (od : Int) (hod : OracleDate.isValidDate od) : Tr.OracleDate.round_hour_safe od := by
  unfold Tr.OracleDate.round_hour_safe
  tr_ts_safe od hod.1

@[tr_safe] theorem OracleDate.round_minute_safe (od : Int) (hod : OracleDate.isValidDate od) : Tr.OracleDate.round_minute_safe od := by
  unfold Tr.OracleDate.round_minute_safe
  tr_ts_safe od hod.1

end SqlDt.TrSafe
