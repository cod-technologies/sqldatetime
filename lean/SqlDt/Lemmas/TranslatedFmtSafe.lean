/-
  Lemmas/TranslatedFmtSafe (hand-written, stable): the safety predicates `Tr.f_safe` of the byte-slice leaf
  functions of src/format.rs (SqlDt/TranslatedFmt.lean): no slice index out of range, no `u8`/`i32`/`usize` arithmetic
  leaving its type, the digit loop of `write_u32` ends within its fuel.
  Same namespace (`SqlDt.TrSafe`) and attribute (`tr_safe`) as Lemmas/TranslatedSafe; independent of that file.
  Hypotheses: none for seven of the twelve (any byte list, any `max_len`, any style value); CONTRACT hypotheses, each
  explained at its theorem, for `parse_number`, `parse_fraction`, `parse_year` (`max_len ≤ 9`: ten digits overflow the
  `i32` accumulator), `write_u32` and `NDT.fraction` (the crate's own `debug_assert!`s).
-/
import SqlDt.Lemmas.TranslatedFmtEq
set_option linter.unusedSimpArgs false
namespace SqlDt.TrSafe
open SqlDt SqlDt.Gen SqlDt.TrTactic SqlDt.TrEq

theorem findIdx?_lt {α} (p : α → Bool) : ∀ (s : List α) (i : Nat), s.findIdx? p = some i → i < s.length :=
  fun _ _ h => (List.findIdx?_eq_some_iff_findIdx_eq.1 h).1

@[tr_safe] theorem expect_char_safe (s : List Nat) (expected : Int) : Tr.expect_char_safe s expected := by
  unfold Tr.expect_char_safe
  cases s <;> simp [Tr.bFirst, Tr.bLen]

@[tr_safe] theorem eat_whitespaces_safe (s : List Nat) : Tr.eat_whitespaces_safe s := by
  -- first alternative: an UNTRANSLATED alias has the predicate `True` (see `parse_number_eq` in Lemmas/TranslatedFmtEq);
  -- likewise in `eat_digits_safe`, `write_u32_safe`, `NDT.fraction_safe`
  first
  | (unfold Tr.eat_whitespaces_safe; exact True.intro)
  | (unfold Tr.eat_whitespaces_safe
     simp only [Tr.bLen, Int.ofNat_eq_natCast]
     generalize hl : List.takeWhile _ s = t
     have h : t.length ≤ s.length := hl ▸ (List.takeWhile_prefix _).length_le
     omega)
  | -- the prefix found with `position`
    (unfold Tr.eat_whitespaces_safe
     simp only [Tr.bPosition]
     cases hfi : List.findIdx? _ s with
     | none => simp [Tr.bLen]
     | some i =>
       have := findIdx?_lt _ _ _ hfi
       simp [Tr.bLen]; omega)

@[tr_safe] theorem eat_digits_safe (s : List Nat) (max_len : Int) : Tr.eat_digits_safe s max_len := by
  first
  | (unfold Tr.eat_digits_safe; exact True.intro)
  | (unfold Tr.eat_digits_safe
     simp only [Tr.bLen, Int.ofNat_eq_natCast]
     generalize hl : List.takeWhile _ _ = t
     have h : t.length ≤ s.length := hl ▸ Nat.le_trans (List.takeWhile_prefix _).length_le (by simp; omega)
     omega)

@[tr_safe] theorem parse_week_day_number_safe (s : List Nat) : Tr.parse_week_day_number_safe s := by
  unfold Tr.parse_week_day_number_safe
  cases s <;> simp [Tr.bLen, Tr.bFirst] <;> first | done | omega | (intros; omega)

theorem eat_digits_fst_spec (s : List Nat) (max_len : Int) :
    (∀ d ∈ (Tr.eat_digits s max_len).1, 48 ≤ d ∧ d ≤ 57) ∧ (Tr.eat_digits s max_len).1.length ≤ max_len.toNat := by
  rw [eat_digits_eq]
  exact ⟨fun d hd => by simpa [isDigitB] using SqlDt.Lemmas.eatDigits_all _ _ d hd, SqlDt.Lemmas.eatDigits_len _ _⟩

/-- `digits.iter().fold(acc, |int, &i| int * 10 + (i - b'0') as i32)` over at most nine ASCII digits: every step fits
    (`P` is the obligation of the closure body, `f` the closure), and the result has as many digits -/
theorem fold_digits_safe {f : Int → Nat → Int} {P : Int → Nat → Prop}
    (hf : ∀ a d, f a d = a * 10 + (Int.ofNat d - 48))
    (hP : ∀ a d, 0 ≤ a → a ≤ 99999999 → 48 ≤ d → d ≤ 57 → P a d) :
    ∀ (ds : List Nat) (k : Nat) (acc : Int), (∀ d ∈ ds, 48 ≤ d ∧ d ≤ 57) → 0 ≤ acc → acc.toNat < 10 ^ k →
      k + ds.length ≤ 9 →
      Tr.foldSafe f P acc ds ∧ 0 ≤ List.foldl f acc ds ∧ (List.foldl f acc ds).toNat < 10 ^ (k + ds.length) := by
  intro ds
  induction ds with
  | nil => intro k acc _ h0 h1 _; simp [Tr.foldSafe]; omega
  | cons d r ih =>
    intro k acc hd h0 h1 hk
    have hdd := hd d (by simp)
    have hk8 : k ≤ 8 := by simp at hk; omega
    have hp : (10 : Nat) ^ k ≤ 10 ^ 8 := Nat.pow_le_pow_right (by omega) hk8
    have hp1 : (10 : Nat) ^ (k + 1) = 10 * 10 ^ k := by rw [Nat.pow_succ, Nat.mul_comm]
    have hstep := ih (k + 1) (f acc d) (fun x hx => hd x (by simp [hx])) (by rw [hf]; simp only [Int.ofNat_eq_natCast]; omega)
      (by rw [hf, hp1]; simp only [Int.ofNat_eq_natCast]; omega) (by simp at hk ⊢; omega)
    refine ⟨⟨hP acc d h0 (by omega) hdd.1 hdd.2, hstep.1⟩, ?_, ?_⟩
    · simpa using hstep.2.1
    · have : k + 1 + r.length = k + (d :: r).length := by simp; omega
      rw [← this]; simpa using hstep.2.2

theorem digits_value (s : List Nat) (max_len : Int) (hm : max_len ≤ 9) {f : Int → Nat → Int} {P : Int → Nat → Prop}
    (hf : ∀ a d, f a d = a * 10 + (Int.ofNat d - 48))
    (hP : ∀ a d, 0 ≤ a → a ≤ 99999999 → 48 ≤ d → d ≤ 57 → P a d) :
    Tr.foldSafe f P 0 (Tr.eat_digits s max_len).1 ∧ 0 ≤ List.foldl f 0 (Tr.eat_digits s max_len).1 ∧
      List.foldl f 0 (Tr.eat_digits s max_len).1 ≤ 999999999 := by
  have hs := eat_digits_fst_spec s max_len
  have h := fold_digits_safe hf hP (Tr.eat_digits s max_len).1 0 0 hs.1 (by omega) (by simp) (by omega)
  refine ⟨h.1, h.2.1, ?_⟩
  have hp : (10 : Nat) ^ (0 + (Tr.eat_digits s max_len).1.length) ≤ 10 ^ 9 := Nat.pow_le_pow_right (by omega) (by omega)
  have := h.2.2
  omega

theorem fitsI32_fold_digits (s : List Nat) (max_len : Int) (hm : max_len ≤ 9) {f : Int → Nat → Int}
    (hf : ∀ a d, f a d = a * 10 + (Int.ofNat d - 48)) :
    fitsI32 (List.foldl f 0 (Tr.eat_digits s max_len).1) ∧ fitsI32 (-List.foldl f 0 (Tr.eat_digits s max_len).1) := by
  have h := digits_value s max_len hm hf (P := fun _ _ => True) (fun _ _ _ _ _ _ => True.intro)
  simp only [fitsI32, I32_MIN, I32_MAX]; omega

/-- the obligations of the closure body `int * 10 + (i - b'0') as i32` for a digit and at most eight digits so far -/
macro "tr_digit_step" : tactic => `(tactic| (
  intro a d h0 h1 h2 h3
  simp only [fitsI32, Tr.fitsU8, I32_MIN, I32_MAX, Int.ofNat_eq_natCast]
  omega))

/-- CONTRACT `max_len ≤ 9`: with ten digits (`max_len = 10`, input "9999999999") `int * 10 + ..` leaves `i32` - a debug-build
    panic, a silent wrap in release.  Every caller passes a field width of the type (`YEAR_MAX_LENGTH` .. ≤ 9) or 4. -/
@[tr_safe] theorem parse_number_safe (input : List Nat) (max_len : Int) (hm : max_len ≤ 9) :
    Tr.parse_number_safe input max_len := by
  unfold Tr.parse_number_safe
  cases input with
  | nil => simp [Tr.bFirst]
  | cons a r =>
    simp only [Tr.bFirst]
    repeat' (first | intro _ | with_reducible apply And.intro)
    all_goals first
      | (simp [Tr.bLen]; done)
      | (simp [Tr.bLen]; omega)
      | exact eat_digits_safe _ _
      | exact (digits_value _ _ hm (by intros; rfl) (by tr_digit_step)).1
      | exact (fitsI32_fold_digits _ _ hm (by intros; rfl)).1
      | exact (fitsI32_fold_digits _ _ hm (by intros; rfl)).2

theorem bLen_bSet (s : List Nat) (i v : Int) : Tr.bLen (Tr.bSet s i v) = Tr.bLen s := by
  unfold Tr.bSet Tr.bLen; split <;> simp

/-- safety of the digit loop of `write_u32` (abstract `cond` / `step` / obligations, as in `TrEq.digits_loop_nat`) -/
theorem digits_loop_safe {cond : List Nat × Int × Int → Bool} {step : List Nat × Int × Int → List Nat × Int × Int}
    {Pc Pb : List Nat × Int × Int → Prop} {M : Int}
    (hC : ∀ b i v, cond (b, i, v) = decide (v ≥ 10))
    (hS : ∀ b i v, 0 ≤ i → 0 ≤ v → step (b, i, v) = (Tr.bSet b i (v % 10 + 48), i - 1, v / 10))
    (hPc : ∀ st, Pc st)
    (hPb : ∀ b i v, 1 ≤ i → i < Tr.bLen b → i ≤ M → 10 ≤ v → Pb (b, i, v)) :
    ∀ (fuel : Nat) (b : List Nat) (i v : Nat), v < 10 ^ (fuel + 1) → fuel ≤ i → i < b.length → (i : Int) ≤ M →
      Tr.loopSafe fuel cond step Pc Pb (b, (i : Int), (v : Int)) := by
  intro fuel
  induction fuel with
  | zero =>
    intro b i v hv hi hb hM
    have hv10 : v < 10 := by simpa using hv
    refine ⟨hPc _, ?_⟩
    rw [hC]; simp; omega
  | succ n ih =>
    intro b i v hv hi hb hM
    refine ⟨hPc _, ?_⟩
    intro hc
    rw [hC] at hc
    have h10 : 10 ≤ v := by
      have : (10 : Int) ≤ (v : Int) := by simpa using hc
      omega
    have hv1 : v / 10 < 10 ^ (n + 1) := by
      have : 10 ^ (n + 1 + 1) = 10 * 10 ^ (n + 1) := by rw [Nat.pow_succ, Nat.mul_comm]
      omega
    refine ⟨hPb b i v (by omega) (by simp only [Tr.bLen, Int.ofNat_eq_natCast]; omega) hM (by omega), ?_⟩
    rw [hS b i v (by omega) (by omega)]
    have e1 : ((i : Int) - 1) = ((i - 1 : Nat) : Int) := by omega
    have e2 : ((v : Int) / 10) = ((v / 10 : Nat) : Int) := by omega
    rw [e1, e2]
    apply ih _ _ _ hv1 (by omega) _ (by omega)
    have := bLen_bSet b (i : Int) ((v : Int) % 10 + 48)
    simp only [Tr.bLen, Int.ofNat_eq_natCast] at this
    omega

/-- the same about a loop met in a goal, where the start values are terms that are equal to casts of naturals -/
theorem digits_loop_safe' {cond : List Nat × Int × Int → Bool} {step : List Nat × Int × Int → List Nat × Int × Int}
    {Pc Pb : List Nat × Int × Int → Prop} {fuel : Nat} {b : List Nat} {i' v' : Int}
    (i v : Nat) (hi' : i' = (i : Int)) (hv' : v' = (v : Int))
    (hC : ∀ b i v, cond (b, i, v) = decide (v ≥ 10))
    (hS : ∀ b i v, 0 ≤ i → 0 ≤ v → step (b, i, v) = (Tr.bSet b i (v % 10 + 48), i - 1, v / 10))
    (hPc : ∀ st, Pc st)
    (hPb : ∀ b i v, 1 ≤ i → i < Tr.bLen b → i ≤ i' → 10 ≤ v → Pb (b, i, v))
    (hv : v < 10 ^ (fuel + 1)) (hi : fuel ≤ i) (hb : i < b.length) :
    Tr.loopSafe fuel cond step Pc Pb (b, i', v') := by
  subst hi' hv'
  exact digits_loop_safe hC hS hPc hPb fuel b i v hv hi hb (by omega)

/-- CONTRACT: `value` is a `u32` and `0 < width < 11` (the function's `debug_assert!`; the callers pass 1..4 for a year
    and 1..9 for a fraction).  For `width ≥ 12` and a one-digit value `index -= width - len` underflows `usize`. -/
@[tr_safe] theorem write_u32_safe (value width : Int) (hv : fitsU32 value) (hw0 : 0 < width) (hw1 : width < 11) :
    Tr.write_u32_safe value width := by
  first
  | (unfold Tr.write_u32_safe; exact True.intro)
  | (unfold Tr.write_u32_safe
     obtain ⟨v, rfl⟩ : ∃ v : Nat, value = (v : Int) := ⟨value.toNat, by unfold fitsU32 at hv; omega⟩
     have hv1 : v < 10 ^ 11 := by unfold fitsU32 U32_MAX at hv; omega
     simp only []
     generalize hst : Tr.loopN _ _ _ _ = st
     obtain ⟨j, w, h1, h2, h3, h4, h5⟩ := digits_loop hst 10 v (by simp) rfl
       (by intros; rfl)
       (by tr_digit_loop_step)
       (by omega) (by omega) (by simp)
     have hL := digitsRev_length_pos 10 v
     simp only [Nat.reduceAdd] at h4 h5 hL
     have hj : j ≤ 11 := by omega
     have hlen : Tr.bLen st.1 = 11 := by
       have := congrArg List.length h5
       simp [Nat.min_eq_left hj] at this
       simp only [Tr.bLen, Int.ofNat_eq_natCast]; omega
     rw [h1, h2]
     repeat' (first | intro _ | with_reducible apply And.intro)
     all_goals first
       | omega
       | (refine digits_loop_safe' 10 v (by simp) rfl (by intros; rfl)
           (by tr_digit_loop_step)
           (by intro _; trivial)
           ?_ (by omega) (by omega) (by simp)
          intro b i x hi hb hM hx
          simp only [bLen_bSet, Tr.fitsU8, Tr.fitsU64, asU8]
          omega)
       | (simp only [bLen_bSet, hlen, Tr.fitsU8, Tr.fitsU64, asU8] at *; omega)
       | (simp only [bLen_bSet, hlen, Tr.fitsU8, Tr.fitsU64, asU8] at *; split <;> omega))

/-- CONTRACT `max_len ≤ 9` (as for `parse_number`; it also keeps `FRACTION_FACTOR[digits.len()]` inside the ten entries). -/
@[tr_safe] theorem parse_fraction_safe (s : List Nat) (max_len : Int) (hm : max_len ≤ 9) :
    Tr.parse_fraction_safe s max_len := by
  unfold Tr.parse_fraction_safe
  have hs := (eat_digits_fst_spec s max_len).2
  cases s with
  | nil => simp [Tr.bFirst]
  | cons a r =>
    simp only [Tr.bFirst]
    repeat' (first | intro _ | with_reducible apply And.intro)
    all_goals first
      | exact eat_digits_safe _ _
      | exact (digits_value _ _ hm (by intros; rfl) (by tr_digit_step)).1
      | (simp only [Tr.bLen, Int.ofNat_eq_natCast]; omega)

/-- CONTRACT `p < 10`: the function's own `debug_assert!` (the lexer only produces `FF1`..`FF9`, the default is 6). -/
@[tr_safe] theorem NDT.fraction_safe (dt : NDT) (p : Int) (h0 : 0 ≤ p) (h1 : p < 10) : Tr.NDT.fraction_safe dt p := by
  first
  | (unfold Tr.NDT.fraction_safe; exact True.intro)
  | (unfold Tr.NDT.fraction_safe
     repeat' (first | intro _ | with_reducible apply And.intro)
     all_goals omega)

/-- no hypothesis: the slices `&s[4..]` / `&s[2..]` are taken after `starts_with` has seen that many bytes -/
@[tr_safe] theorem parse_ampm_safe (s : List Nat) (style : Int) : Tr.parse_ampm_safe s style := by
  unfold Tr.parse_ampm_safe
  simp only []
  repeat' (first | intro _ | with_reducible apply And.intro)
  all_goals first
    | omega
    | (simp only [Tr.bLen, Int.ofNat_eq_natCast, decide_eq_true_eq, List.length_cons, List.length_nil, ge_iff_le] at *
       omega)

theorem forFirstSafe_of_all {β : Type} (f : Int → List Nat → Option β) (P : Int → List Nat → Prop) :
    ∀ (xs : List (List Nat)) (k : Int), (∀ i x, k ≤ i → i < k + (xs.length : Int) → P i x) → Tr.forFirstSafe f P k xs := by
  intro xs
  induction xs with
  | nil => intro k _; trivial
  | cons x xs ih =>
    intro k h
    refine ⟨h k x (by omega) (by simp; omega), fun _ => ih (k + 1) (fun i y h1 h2 => h i y (by omega) (by simp; omega))⟩

theorem idxD_length_le {xs : List (List (List Nat))} {n : Nat} (h : ∀ r ∈ xs, r.length ≤ n) (k : Int) :
    (idxD xs k []).length ≤ n :=
  idxD_of_forall (P := fun r : List (List Nat) => r.length ≤ n) (d := []) (Nat.zero_le n) h k

theorem month_rows : ∀ r ∈ MONTH_NAME_TABLE, r.length ≤ 12 := by decide
theorem day_rows : ∀ r ∈ DAY_NAME_TABLE, r.length ≤ 12 := by decide

/-- the body of the two name searches: `starts_with` has seen `name.len()` bytes before `&s[name.len()..]` is taken, and
    the index is below the row length -/
macro "tr_name_search" : tactic => `(tactic| (
  apply forFirstSafe_of_all
  intro i x h1 h2
  have hm := idxD_length_le month_rows
  have hd := idxD_length_le day_rows
  simp only []
  repeat' (first | intro _ | with_reducible apply And.intro)
  all_goals first
    | omega
    | (simp only [Tr.bLen, Tr.fitsU64, Int.ofNat_eq_natCast, decide_eq_true_eq, ge_iff_le] at *
       first | omega | (constructor <;> omega))
    | (rename_i hk
       have hk' := hk
       simp only [Tr.bLen, Tr.fitsU64, Int.ofNat_eq_natCast, decide_eq_true_eq, ge_iff_le] at *
       first
         | omega
         | (have := hm 0; have := hm 3; have := hd 0; have := hd 3; omega))))

@[tr_safe] theorem parse_month_name_safe (s : List Nat) : Tr.parse_month_name_safe s := by
  unfold Tr.parse_month_name_safe
  repeat' (first | intro _ | with_reducible apply And.intro | split)
  all_goals first
    | omega
    | trivial
    | tr_name_search

@[tr_safe] theorem parse_week_day_name_safe (s : List Nat) (style : Int) : Tr.parse_week_day_name_safe s style := by
  unfold Tr.parse_week_day_name_safe
  repeat' (first | intro _ | with_reducible apply And.intro | split)
  all_goals first
    | omega
    | trivial
    | tr_name_search

/-- what `parse_number` returns when it succeeds with at most nine digits: a value of at most nine digits, and a rest
    that is shorter than the input by at least the sign -/
theorem parse_number_spec (input : List Nat) (max_len : Int) (hm : max_len ≤ 9) (neg : Bool) (y : Int) (rem : List Nat)
    (h : Tr.parse_number input max_len = .ok (neg, y, rem)) :
    -999999999 ≤ y ∧ y ≤ 999999999 ∧
      Tr.bLen rem + boolToInt (match Tr.bFirst input with | some o => (if o = 43 ∨ o = 45 then true else false) | none => false)
        ≤ Tr.bLen input := by
  rw [parse_number_eq] at h
  unfold Parser.parseNumber at h
  cases input with
  | nil => simp [Parser.perr] at h
  | cons a t =>
    simp only [] at h
    have hv := fun s => fitsI32_fold_digits s max_len hm (f := fun acc d => acc * 10 + (Int.ofNat d - 48)) (by intros; rfl)
    have hd := fun s => digits_value s max_len hm (f := fun acc d => acc * 10 + (Int.ofNat d - 48)) (P := fun _ _ => True)
      (by intros; rfl) (fun _ _ _ _ _ _ => True.intro)
    simp only [eat_digits_eq] at hd
    have hl : ∀ s : List Nat, (Parser.eatDigits s max_len.toNat).2.length ≤ s.length := by
      intro s; unfold Parser.eatDigits; simp
    have c43 : ((a : Int) = 43) = (a = 43) := by simp only [eq_iff_iff]; omega
    have c45 : ((a : Int) = 45) = (a = 45) := by simp only [eq_iff_iff]; omega
    simp only [Tr.bFirst, Tr.bLen, Int.ofNat_eq_natCast, c43, c45, List.length_cons]
    have fin : ∀ (sg : Bool) (s : List Nat),
        (if List.isEmpty (Parser.eatDigits s max_len.toNat).1 = true then (Parser.perr : Chk (Bool × Int × List Nat))
         else Except.ok (sg, (if sg = true then -Parser.foldDigits (Parser.eatDigits s max_len.toNat).1
                              else Parser.foldDigits (Parser.eatDigits s max_len.toNat).1),
                         (Parser.eatDigits s max_len.toNat).2)) = Except.ok (neg, y, rem) →
        -999999999 ≤ y ∧ y ≤ 999999999 ∧ rem.length ≤ s.length := by
      intro sg s hh
      have h1 := hd s
      have h2 := hl s
      unfold Parser.foldDigits at hh
      split at hh
      · simp [Parser.perr] at hh
      · simp only [Except.ok.injEq, Prod.mk.injEq] at hh
        obtain ⟨_, rfl, rfl⟩ := hh
        cases sg <;> simp at h1 ⊢ <;> omega
    by_cases h43 : a = 43
    · subst h43
      have := fin false t (by simpa [B] using h)
      simp [boolToInt]; omega
    · by_cases h45 : a = 45
      · subst h45
        have := fin true t (by simpa [B] using h)
        simp [boolToInt]; omega
      · have := fin false (a :: t) (by simpa [B, h43, h45] using h)
        simp [boolToInt, h43, h45] at this ⊢; omega

/-- CONTRACT: `max_len ≤ 9` (as for `parse_number`), a text that is a real slice (its length is a `usize`) and a clock
    whose year is one `chrono` can represent (`NaiveDate`: -262144..262143), so that `current_year - current_year % 1000 + year` stays inside `i32`. -/
@[tr_safe] theorem parse_year_safe (input : List Nat) (max_len : Int) (now : Clock) (hm : max_len ≤ 9)
    (hy0 : -262144 ≤ now.year) (hy1 : now.year ≤ 262143) (hlen : Tr.bLen input ≤ 18446744073709551615) :
    Tr.parse_year_safe input max_len now := by
  unfold Tr.parse_year_safe
  have hr100 := rrem_spec now.year 100
  have hr10 := rrem_spec now.year 10
  have hr1000 := rrem_spec now.year 1000
  simp only []
  repeat' (first | intro _ | with_reducible apply And.intro)
  all_goals first
    | exact parse_number_safe _ _ (by omega)
    | (split
       · trivial
       · rename_i r hp
         obtain ⟨neg, y, rem⟩ := r
         have hs := parse_number_spec _ _ (by omega) neg y rem hp
         have hb : ∀ b : Bool, 0 ≤ boolToInt b ∧ boolToInt b ≤ 1 := by intro b; cases b <;> simp [boolToInt]
         have hk := hb (match Tr.bFirst input with | some o => (if o = 43 ∨ o = 45 then true else false) | none => false)
         have hl0 : 0 ≤ Tr.bLen rem := by simp [Tr.bLen]
         simp only []
         first
           | (have h2 : max_len = 2 := by assumption
              generalize boolToInt _ = k at *
              simp only [Tr.fitsU64, fitsI32, I32_MIN, I32_MAX]
              omega)
           | (have h13 : max_len = 1 ∨ max_len = 3 := by assumption
              rcases h13 with h | h <;> subst h <;>
                simp [idxD, YEAR_MODIFIER, asI32, Tr.fitsU64, fitsI32, I32_MIN, I32_MAX] <;> omega))

end SqlDt.TrSafe
