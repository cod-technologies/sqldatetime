/-
  Lemmas/Basic: the lemmas of Model/Basic – the `Chk` monad with its guards and gates, checked arithmetic,
  indexing, Rust's truncating division – through which the other files use those definitions without unfolding them.
-/
import SqlDt.Model.Basic
namespace SqlDt

namespace Chk
variable {α β : Type} {x : Chk α} {f : α → Chk β} {g : α → β} {a a' : α} {b : β} {e e' : Err}
  {c : Prop} [Decidable c]

@[simp] theorem ok_bind : (Except.ok a >>= f) = f a := rfl
@[simp] theorem error_bind : ((Except.error e : Chk α) >>= f) = .error e := rfl
theorem pure_eq : (pure a : Chk α) = .ok a := rfl

theorem bind_pure_eq_map (x : Chk α) (g : α → β) : (x >>= fun a => pure (g a)) = x.map g := by cases x <;> rfl

theorem map_bind {γ : Type} (x : Chk α) (f : α → Chk β) (g : β → γ) : (x >>= f).map g = x >>= fun a => (f a).map g := by
  cases x <;> rfl

theorem bind_eq_ok : (x >>= f) = .ok b ↔ ∃ a, x = .ok a ∧ f a = .ok b := by cases x <;> simp
theorem map_eq_ok : Except.map g x = .ok b ↔ ∃ a, x = .ok a ∧ g a = b := by cases x <;> simp [Except.map]

/-- The guard `if c { return Err(e) } …`. -/
theorem ite_error_eq_ok : (if c then .error e else x) = .ok a ↔ ¬c ∧ x = .ok a := by split <;> simp [*]

/-- The gate `if valid(v) { Ok(v) } else { Err(e) }` of the `try_from_*` constructors. -/
theorem gate_eq_ok : (if c then (.ok a : Chk α) else .error e) = .ok a' ↔ c ∧ a = a' := by split <;> simp [*]
theorem gate_eq_error : (if c then (.ok a : Chk α) else .error e) = .error e' ↔ ¬c ∧ e = e' := by split <;> simp [*]

/-! ### The two things said of an operation row by row: its values are valid, its error is never `Panic` -/

theorem bind_valid {P : α → Prop} {Q : β → Prop} (hx : ∀ a, x = .ok a → P a) (hf : ∀ a, P a → f a = .ok b → Q b)
    (h : (x >>= f) = .ok b) : Q b :=
  have ⟨a, ha, hb⟩ := bind_eq_ok.1 h
  hf a (hx a ha) hb

theorem bind_pure_valid {Q : β → Prop} (hx : ∀ a, x = .ok a → Q (g a)) (h : (x >>= fun a => pure (g a)) = .ok b) :
    Q b :=
  bind_valid hx (fun _ ha hb => Except.ok.inj hb ▸ ha) h

theorem gate_valid {P : α → Prop} [DecidablePred P] (h : (if P a then (.ok a : Chk α) else .error e) = .ok a') : P a' :=
  have ⟨h1, h2⟩ := gate_eq_ok.1 h
  h2 ▸ h1

theorem bind_ne_panic (hx : x ≠ .error .Panic) (hf : ∀ a, x = .ok a → f a ≠ .error .Panic) :
    (x >>= f) ≠ .error .Panic := by
  cases x with
  | ok a => exact hf a rfl
  | error e => intro h; cases h; exact hx rfl

theorem bind_pure_ne_panic (hx : x ≠ .error .Panic) : (x >>= fun a => pure (g a)) ≠ .error .Panic :=
  bind_ne_panic hx fun _ _ => nofun

theorem map_ne_panic (hx : x ≠ .error .Panic) : x.map g ≠ .error .Panic :=
  bind_pure_eq_map x g ▸ bind_pure_ne_panic hx

theorem gate_ne (he : e ≠ e') : (if c then (.ok a : Chk α) else .error e) ≠ .error e' :=
  fun h => he (gate_eq_error.1 h).2

/-- Both at once: `r` returns a value satisfying `Q`, or fails with an error satisfying `E`. -/
def Post (r : Chk α) (Q : α → Prop) (E : Err → Prop) : Prop :=
  match r with
  | .ok a => Q a
  | .error e => E e

namespace Post
variable {Q Q' : α → Prop} {R : β → Prop} {E E' : Err → Prop} {y : Chk α}

theorem ok (h : Q a) : Post (.ok a) Q E := h
theorem pure (h : Q a) : Post (Pure.pure a) Q E := h
theorem error (h : E e) : Post (.error e : Chk α) Q E := h

theorem bind (hx : Post x Q E) (hf : ∀ a, Q a → Post (f a) R E) : Post (x >>= f) R E := by
  cases x with
  | error e => exact hx
  | ok a => exact hf a hx

theorem mono (h : Post x Q E) (hQ : ∀ a, Q a → Q' a) (hE : ∀ e, E e → E' e) : Post x Q' E' := by
  cases x with
  | error e => exact hE e h
  | ok a => exact hQ a h

theorem of_ok (h : Post x Q E) (hx : x = .ok a) : Q a := by subst hx; exact h
theorem of_error (h : Post x Q E) (hx : x = .error e) : E e := by subst hx; exact h

theorem ite (hx : Post x Q E) (hy : Post y Q E) : Post (if c then x else y) Q E := by
  split <;> assumption

theorem ite_neg (hx : Post x Q E) (hy : ¬ c → Post y Q E) : Post (if c then x else y) Q E := by
  split
  · exact hx
  · exact hy ‹_›

end Post

/-- The value of a checked computation, whatever the kind of error: what a specification that only says "error"
    (an `Option`) is compared with. -/
def val? : Chk α → Option α
  | .ok a => some a
  | .error _ => none

@[simp] theorem val?_ok : val? (.ok a : Chk α) = some a := rfl
theorem val?_bind : val? (x >>= f) = (val? x).bind (fun a => val? (f a)) := by cases x <;> rfl
theorem val?_gate : val? (if c then (.ok a : Chk α) else .error e) = if c then some a else none := by split <;> rfl
theorem val?_guard : val? (if c then .error e else x) = if c then none else val? x := by split <;> rfl

end Chk

theorem fitsI32_iff (x : Int) : fitsI32 x ↔ -2147483648 ≤ x ∧ x ≤ 2147483647 := Iff.rfl
theorem fitsI64_iff (x : Int) : fitsI64 x ↔ -9223372036854775808 ≤ x ∧ x ≤ 9223372036854775807 := Iff.rfl

/-- `checked_add` followed by a range gate that is narrower than the machine type (`fits` is `fitsI32` / `fitsI64`,
    the `if` is `checkedI32` / `checkedI64` unfolded) is the gate on the exact result. -/
theorem checked_gate {P fits : Int → Prop} [DecidablePred P] [DecidablePred fits] (e : Err) (x : Int)
    (hP : P x → fits x) :
    (match (if fits x then some x else none : Option Int) with
      | some r => if P r then (.ok r : Chk Int) else .error e
      | none => .error e) = if P x then .ok x else .error e := by
  by_cases h : fits x
  · simp only [h, ↓reduceIte]
  · simp only [h, ↓reduceIte, mt hP h]

theorem asI32_spec (x : Int) :
    (x % 4294967296 < 2147483648 ∧ asI32 x = x % 4294967296) ∨
    (2147483648 ≤ x % 4294967296 ∧ asI32 x = x % 4294967296 - 4294967296) := by
  unfold asI32; simp only []; by_cases h : x % 4294967296 ≥ 2147483648
  · simp [h]
  · simp [h]; omega

theorem idx_eq_ok {α} {xs : List α} {i : Int} (h0 : 0 ≤ i) (h1 : i.toNat < xs.length) :
    idx xs i = .ok xs[i.toNat] := by
  unfold idx; rw [if_neg (by omega), List.getElem?_eq_getElem h1]

theorem idx_eq_idxD {α} (xs : List α) (i : Int) (d : α) (h0 : 0 ≤ i) (h1 : i < (xs.length : Int)) :
    idx xs i = .ok (idxD xs i d) := by
  have hl : i.toNat < xs.length := by omega
  rw [idx_eq_ok h0 hl]
  unfold idxD
  rw [if_neg (by omega), List.getD_eq_getElem?_getD, List.getElem?_eq_getElem hl, Option.getD_some]

theorem idxD_of_idx_ok {α} {xs : List α} {i : Int} {v : α} (d : α) (h : idx xs i = .ok v) : idxD xs i d = v := by
  unfold idx at h
  unfold idxD
  split at h
  · cases h
  · rw [if_neg ‹_›, List.getD_eq_getElem?_getD]
    split at h
    · rename_i e
      rw [e]
      cases h
      rfl
    · cases h

theorem idx_post {α} {E : Err → Prop} (xs : List α) (i : Int) (hP : ¬ (0 ≤ i ∧ i.toNat < xs.length) → E .Panic) :
    Chk.Post (idx xs i) (fun _ => True) E := by
  unfold idx
  split
  · exact .error (hP (by omega))
  · split
    · exact .ok trivial
    · rename_i h
      exact .error (hP fun h' => by simp at h; omega)

theorem idxD_of_forall {α} {P : α → Prop} {xs : List α} {d : α} (hd : P d) (h : ∀ x ∈ xs, P x) (i : Int) :
    P (idxD xs i d) := by
  unfold idxD
  split
  · exact hd
  · rw [List.getD_eq_getElem?_getD]
    cases e : xs[i.toNat]? with
    | none => exact hd
    | some x => exact h x (List.mem_of_getElem? e)

theorem rdiv_nonneg_eq {a b : Int} (h : 0 ≤ a) : rdiv a b = a / b := if_pos h
theorem rrem_nonneg_eq {a b : Int} (h : 0 ≤ a) : rrem a b = a % b := if_pos h
theorem rdiv_neg_eq {a b : Int} (h : a < 0) : rdiv a b = -((-a) / b) := if_neg (by omega)
theorem rrem_neg_eq {a b : Int} (h : a < 0) : rrem a b = -((-a) % b) := if_neg (by omega)

/-- Rust's `/` and `%` by sign, in the disjunctive form `omega` takes: it knows the Euclidean `/` `%` but not these. -/
theorem rdiv_spec (a b : Int) : (0 ≤ a ∧ rdiv a b = a / b) ∨ (a < 0 ∧ rdiv a b = -((-a) / b)) := by
  by_cases h : 0 ≤ a
  · exact .inl ⟨h, rdiv_nonneg_eq h⟩
  · exact .inr ⟨by omega, rdiv_neg_eq (by omega)⟩
theorem rrem_spec (a b : Int) : (0 ≤ a ∧ rrem a b = a % b) ∨ (a < 0 ∧ rrem a b = -((-a) % b)) := by
  by_cases h : 0 ≤ a
  · exact .inl ⟨h, rrem_nonneg_eq h⟩
  · exact .inr ⟨by omega, rrem_neg_eq (by omega)⟩

/-- Without a case on the sign: enough where only the size of a remainder matters. -/
theorem rrem_lt (a : Int) {b : Int} (hb : 0 < b) : -b < rrem a b ∧ rrem a b < b := by
  rcases rrem_spec a b with ⟨_, e⟩ | ⟨_, e⟩ <;> rw [e]
  · have := Int.emod_lt_of_pos a hb; have := Int.emod_nonneg a (by omega : b ≠ 0); omega
  · have := Int.emod_lt_of_pos (-a) hb; have := Int.emod_nonneg (-a) (by omega : b ≠ 0); omega

theorem rdiv_mul_add_rrem (a b : Int) : rdiv a b * b + rrem a b = a := by
  rcases rdiv_spec a b with ⟨_, e⟩ | ⟨_, e⟩ <;> rcases rrem_spec a b with ⟨_, e'⟩ | ⟨_, e'⟩ <;> rw [e, e']
  · exact Int.ediv_mul_add_emod a b
  · omega
  · omega
  · have := Int.ediv_mul_add_emod (-a) b
    rw [Int.neg_mul]; omega

theorem rdiv_neg_left (a b : Int) : rdiv (-a) b = -rdiv a b := by
  unfold rdiv
  rcases Int.lt_trichotomy a 0 with h | rfl | h
  · rw [if_pos (by omega), if_neg (by omega), Int.neg_neg]
  · simp
  · rw [if_neg (by omega), if_pos (by omega), Int.neg_neg]

theorem rrem_neg_left (a b : Int) : rrem (-a) b = -rrem a b := by
  unfold rrem
  rcases Int.lt_trichotomy a 0 with h | rfl | h
  · rw [if_pos (by omega), if_neg (by omega), Int.neg_neg]
  · simp
  · rw [if_neg (by omega), if_pos (by omega), Int.neg_neg]

theorem rrem_eq_zero {a b : Int} : rrem a b = 0 ↔ a % b = 0 := by
  unfold rrem; split
  · rfl
  · rw [Int.neg_eq_zero, ← Int.dvd_iff_emod_eq_zero, Int.dvd_neg, Int.dvd_iff_emod_eq_zero]

end SqlDt
