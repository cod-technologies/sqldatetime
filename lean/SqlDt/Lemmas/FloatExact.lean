/-
  Lemmas/FloatExact: doubles with a known value.  The value of `fin s m e` is named by an equation in ℚ,
  `(m : ℚ) * 2 ^ e = …`.  A canonical double is a fixed point of rounding; `F64.mul` / `F64.div` round the product /
  quotient of the values; integers up to `2^53` (times a power of two) convert exactly, so that their products,
  quotients, casts and `f64::round` are those of the integers; an integer below `2^53` that is not a power of two
  absorbs what is within relative distance `2^-54` of it.
-/
import SqlDt.Lemmas.FloatValue
namespace SqlDt.Lemmas

theorem round_exact (s : Bool) {num den m0 : Nat} {e0 : Int} (hd : 0 < den) (hc : CanonME m0 e0)
    (hv : (num : ℚ) / den = m0 * 2 ^ e0) : F64.round s num den = F64.fin s m0 e0 := by
  have hX := two_zpow_pos e0
  have hD : (0 : ℚ) < den := by exact_mod_cast hd
  unfold F64.round
  by_cases h0 : num = 0
  · rw [if_pos h0]
    subst h0
    rw [Nat.cast_zero, zero_div, eq_comm, mul_eq_zero, or_iff_left hX.ne'] at hv
    obtain rfl : m0 = 0 := by exact_mod_cast hv
    obtain rfl : e0 = F64.EMIN := by rcases hc.2.2.2 with h | h; (exact absurd h (by decide)); exact h
    rfl
  · rw [if_neg h0, roundPos_of_near (by omega) hd hc]
    · rcases hc.2.2.2 with h | h
      · left; rw [hv]; exact mul_le_mul_of_nonneg_right (by exact_mod_cast h) hX.le
      · right; exact h
    · rw [hv, sub_self, abs_zero]; exact half_pos (two_zpow_pos _)

theorem round_nat (s : Bool) {N m : Nat} {e : Int} (hc : CanonME m e) (hv : (m : ℚ) * 2 ^ e = N) :
    F64.round s N 1 = F64.fin s m e :=
  round_exact s (by decide) hc (by rw [hv, Nat.cast_one, div_one])

theorem round_zero (s : Bool) (den : Nat) : F64.round s 0 den = F64.zero s := by
  unfold F64.round; rfl

/-- the rational handed to `round` by `F64.mul` -/
theorem mul_val (m1 m2 : Nat) (e1 e2 : Int) :
    ((m1 * m2 * 2 ^ (e1 + e2).toNat : Nat) : ℚ) / ((2 ^ (-(e1 + e2)).toNat : Nat) : ℚ) =
      (m1 : ℚ) * 2 ^ e1 * ((m2 : ℚ) * 2 ^ e2) := by
  push_cast
  rw [mul_div_assoc, ← zpow_split, zpow_add₀ (by norm_num)]; ring

/-- the rational handed to `round` by `F64.div` -/
theorem div_val (m1 m2 : Nat) (e1 e2 : Int) (hm2 : m2 ≠ 0) :
    ((m1 * 2 ^ (e1 - e2).toNat : Nat) : ℚ) / ((m2 * 2 ^ (-(e1 - e2)).toNat : Nat) : ℚ) =
      (m1 : ℚ) * 2 ^ e1 / ((m2 : ℚ) * 2 ^ e2) := by
  have h := scaled_cast m1 m2 (-(e1 - e2))
  rw [neg_neg] at h
  have h2 : (2 : ℚ) ^ e2 ≠ 0 := (two_zpow_pos e2).ne'
  have hm : (m2 : ℚ) ≠ 0 := by exact_mod_cast hm2
  rw [h, zpow_neg, div_inv_eq_mul, zpow_sub₀ (by norm_num), div_mul_div_comm, mul_comm (m2 : ℚ)]

theorem mul_fin (s t : Bool) {m1 m2 a b : Nat} {e1 e2 : Int} (hb : 0 < b)
    (hv : (m1 : ℚ) * 2 ^ e1 * ((m2 : ℚ) * 2 ^ e2) = (a : ℚ) / b) :
    F64.mul (F64.fin s m1 e1) (F64.fin t m2 e2) = F64.round (s != t) a b := by
  unfold F64.mul
  simp only [pow2_eq]
  exact round_congr _ (by positivity) hb (by rw [mul_val, hv])

theorem div_fin (s t : Bool) {m1 m2 a b : Nat} {e1 e2 : Int} (hb : 0 < b) (hm2 : m2 ≠ 0)
    (hv : (m1 : ℚ) * 2 ^ e1 / ((m2 : ℚ) * 2 ^ e2) = (a : ℚ) / b) :
    F64.div (F64.fin s m1 e1) (F64.fin t m2 e2) = F64.round (s != t) a b := by
  unfold F64.div
  simp only [pow2_eq, hm2, if_false]
  have : 0 < m2 := by omega
  exact round_congr _ (by positivity) hb (by rw [div_val _ _ _ _ hm2, hv])

theorem mul_rounds (s1 s2 : Bool) (m1 m2 : Nat) (e1 e2 : Int) :
    Rounds (F64.mul (.fin s1 m1 e1) (.fin s2 m2 e2)) (s1 != s2) (((m1 : ℚ) * 2 ^ e1) * ((m2 : ℚ) * 2 ^ e2)) := by
  rw [mul_fin s1 s2 (by positivity) (mul_val m1 m2 e1 e2).symm, ← mul_val]
  exact round_rounds _ _ _ (by positivity)

theorem div_rounds (s1 s2 : Bool) (m1 m2 : Nat) (e1 e2 : Int) (hm2 : m2 ≠ 0) :
    Rounds (F64.div (.fin s1 m1 e1) (.fin s2 m2 e2)) (s1 != s2) (((m1 : ℚ) * 2 ^ e1) / ((m2 : ℚ) * 2 ^ e2)) := by
  have hd : 0 < m2 * 2 ^ (-(e1 - e2)).toNat := Nat.mul_pos (by omega) (by positivity)
  rw [div_fin s1 s2 hd hm2 (div_val m1 m2 e1 e2 hm2).symm, ← div_val _ _ _ _ hm2]
  exact round_rounds _ _ _ hd

/-- `970 = EMAX - 1`: for `M = 2^53` the exponent is `1 + t`. -/
theorem exists_canon (M t : Nat) (h1 : M ≤ 2 ^ 53) (ht : t ≤ 970) :
    ∃ m e, CanonME m e ∧ (0 < M → 2 ^ 52 ≤ m) ∧ (m : ℚ) * 2 ^ e = M * 2 ^ t := by
  have hE : F64.EMIN = -1074 := rfl
  have hE' : F64.EMAX = 971 := rfl
  rcases Nat.eq_zero_or_pos M with rfl | h0
  · exact ⟨0, F64.EMIN, ⟨by decide, by decide, by decide, Or.inr rfl⟩, by omega, by simp⟩
  by_cases hN : M = 2 ^ 53
  · refine ⟨2 ^ 52, 1 + t, ⟨by decide, by omega, by omega, Or.inl (Nat.le_refl _)⟩, fun _ => Nat.le_refl _, ?_⟩
    subst hN
    rw [zpow_add₀ (by norm_num), zpow_natCast]; norm_num; ring
  · have ha1 : 2 ^ M.log2 ≤ M := Nat.log2_self_le (by omega)
    have ha2 : M < 2 ^ (M.log2 + 1) := Nat.lt_log2_self
    have ha3 : M.log2 < 53 := (Nat.log2_lt (by omega)).mpr (by omega)
    generalize M.log2 = a at *
    have hp : 2 ^ a * 2 ^ (52 - a) = 2 ^ 52 := by rw [← Nat.pow_add]; congr 1; omega
    have hp' : 2 ^ (a + 1) * 2 ^ (52 - a) = 2 ^ 53 := by rw [← Nat.pow_add]; congr 1; omega
    have hm : 2 ^ 52 ≤ M * 2 ^ (52 - a) := by rw [← hp]; exact Nat.mul_le_mul_right _ ha1
    refine ⟨M * 2 ^ (52 - a), (a : Int) - 52 + t, ⟨?_, by omega, by omega, Or.inl hm⟩, fun _ => hm, ?_⟩
    · rw [← hp']; exact Nat.mul_lt_mul_of_pos_right ha2 (by positivity)
    · rw [Nat.cast_mul, Nat.cast_pow, Nat.cast_ofNat, mul_assoc, ← zpow_natCast, ← zpow_natCast,
        ← zpow_add₀ (by norm_num)]
      congr 2; omega

theorem exists_canon_nat (N : Nat) (h1 : N ≤ 2 ^ 53) :
    ∃ m e, CanonME m e ∧ (0 < N → 2 ^ 52 ≤ m) ∧ (m : ℚ) * 2 ^ e = N := by
  obtain ⟨m, e, hc, hm, hv⟩ := exists_canon N 0 h1 (by decide)
  exact ⟨m, e, hc, hm, by rw [hv, pow_zero, mul_one]⟩

theorem round_nat_exact (s : Bool) (N : Nat) (hN : N ≤ 2 ^ 53) :
    ∃ (m : Nat) (e : Int), F64.round s N 1 = .fin s m e ∧ CanonME m e ∧ (m : ℚ) * 2 ^ e = (N : ℚ) := by
  obtain ⟨m, e, hc, _, hv⟩ := exists_canon_nat N hN
  exact ⟨m, e, round_nat s hc hv, hc, hv⟩

/-- `n as f64` is exact for `|n| ≤ 2^53` (zero included) -/
theorem ofInt_exact (n : Int) (h : n.natAbs ≤ 2 ^ 53) :
    ∃ m e, F64.ofInt n = F64.fin (decide (n < 0)) m e ∧ CanonME m e ∧ (m : ℚ) * 2 ^ e = n.natAbs :=
  round_nat_exact _ n.natAbs h

theorem ofInt_natCast (u : Nat) (h : u ≤ 2 ^ 53) :
    ∃ m e, F64.ofInt (u : Int) = F64.fin false m e ∧ CanonME m e ∧ (m : ℚ) * 2 ^ e = u := by
  obtain ⟨m, e, g, hc, hv⟩ := ofInt_exact (u : Int) (by omega)
  rw [decide_eq_false (by omega : ¬ (u : Int) < 0)] at g
  exact ⟨m, e, g, hc, by simpa using hv⟩

theorem ofInt_rounds (v : Int) : Rounds (F64.ofInt v) (decide (v < 0)) (v.natAbs : ℚ) := by
  have := round_rounds (decide (v < 0)) v.natAbs 1 (by decide)
  rw [Nat.cast_one, div_one] at this
  exact this

/-- For `|v| ≤ 2^63` (every `i64`, every interval), `v as f64` is finite with the sign of `v`, and its value is
    within relative error `u'` of `v`. -/
theorem ofInt_accuracy (v : Int) (hv : v.natAbs ≤ 2 ^ 63) :
    ∃ (m : Nat) (e : Int), F64.ofInt v = .fin (decide (v < 0)) m e ∧
      |(m : ℚ) * 2 ^ e - (v.natAbs : ℚ)| ≤ F64.u' * (v.natAbs : ℚ) ∧
      |F64.val (F64.ofInt v) - (v : ℚ)| ≤ F64.u' * |(v : ℚ)| := by
  have hV : (0 : ℚ) ≤ (v.natAbs : ℚ) := by positivity
  -- exact up to `2^53`, one rounding in the normal range above
  have key : ∃ (m : Nat) (e : Int), F64.ofInt v = .fin (decide (v < 0)) m e ∧
      |(m : ℚ) * 2 ^ e - (v.natAbs : ℚ)| ≤ F64.u' * (v.natAbs : ℚ) := by
    rcases Nat.lt_or_ge (2 ^ 53) v.natAbs with h53 | h53
    · have h1 : ((2 ^ 53 : Nat) : ℚ) < (v.natAbs : ℚ) := by exact_mod_cast h53
      have h2 : ((v.natAbs : Nat) : ℚ) ≤ ((2 ^ 63 : Nat) : ℚ) := by exact_mod_cast hv
      rw [Nat.cast_pow, Nat.cast_ofNat, ← zpow_natCast] at h1 h2
      rcases ofInt_rounds v with ⟨_, hbig⟩ | ⟨m, e, hy, _, _, hrel, _⟩
      · exact absurd (le_trans hbig h2) (not_le.mpr (two_zpow_lt_iff.mpr (by decide)))
      · exact ⟨m, e, hy, hrel (le_trans (two_zpow_le (by decide)) h1.le)⟩
    · obtain ⟨m, e, hy, _, hv'⟩ := ofInt_exact v h53
      exact ⟨m, e, hy, by rw [hv', sub_self, abs_zero]; exact mul_nonneg (by rw [u'_eq]; norm_num) hV⟩
  obtain ⟨m, e, hy, hrel⟩ := key
  refine ⟨m, e, hy, hrel, ?_⟩
  rw [hy, F64.val, ← sgn_decide v, ← mul_sub, abs_sgn_mul, abs_sgn_mul, abs_of_nonneg hV]
  exact hrel

theorem ofInt_val_exact (v : Int) (hv : v.natAbs ≤ 2 ^ 53) : F64.val (F64.ofInt v) = (v : ℚ) := by
  obtain ⟨m, e, h1, _, hr⟩ := ofInt_exact v hv
  rw [h1]
  simp only [F64.val]
  rw [hr]
  exact sgn_decide v

theorem toIntSat_of_val (lo hi : Int) (s : Bool) {m N : Nat} {e : Int} (h : (m : ℚ) * 2 ^ e = N)
    (h1 : lo ≤ (if s then -(N : Int) else N)) (h2 : (if s then -(N : Int) else N) ≤ hi) :
    F64.toIntSat lo hi (.fin s m e) = if s then -(N : Int) else N := by
  rw [toIntSat_fin, F64.val, h, truncQ_sgn, truncQ_natCast]
  unfold clamp
  rw [if_neg (by omega), if_neg (by omega)]

theorem ite_neg_natAbs (n : Int) : (if decide (n < 0) = true then -(n.natAbs : Int) else (n.natAbs : Int)) = n := by
  split <;> rename_i h <;> simp only [decide_eq_true_eq] at h <;> omega

theorem F64.toI64_ofInt (n : Int) (h : n.natAbs ≤ 2 ^ 53) : F64.toI64 (F64.ofInt n) = n := by
  obtain ⟨m, e, g, _, hv⟩ := ofInt_exact n h
  unfold F64.toI64 I64_MIN I64_MAX
  rw [g, toIntSat_of_val _ _ _ hv (by rw [ite_neg_natAbs]; omega) (by rw [ite_neg_natAbs]; omega), ite_neg_natAbs]

theorem roundHalfAway_of_val (s : Bool) {m N : Nat} {e : Int} (hc : CanonME m e) (h : (m : ℚ) * 2 ^ e = N) :
    F64.roundHalfAway (.fin s m e) = .fin s m e := by
  by_cases he : e ≥ 0
  · unfold F64.roundHalfAway
    simp only [he, ↓reduceIte]
  · rw [roundHalfAway_fin s m (by omega), h, ← Int.cast_natCast, roundHalfAwayQ_intCast, Int.toNat_natCast]
    exact round_nat s hc h

theorem F64.roundHalfAway_ofInt (n : Int) (h : n.natAbs ≤ 2 ^ 53) :
    F64.roundHalfAway (F64.ofInt n) = F64.ofInt n := by
  obtain ⟨m, e, g, hc, hv⟩ := ofInt_exact n h
  rw [g, roundHalfAway_of_val _ hc hv]

theorem roundHalfAway_val (s : Bool) (m : Nat) (e : Int) (hm : m < 2 ^ 53) :
    ∃ (m'' : Nat) (e'' : Int), F64.roundHalfAway (.fin s m e) = .fin s m'' e'' ∧
      F64.val (.fin s m'' e'') = ((roundHalfAwayQ (F64.val (.fin s m e)) : Int) : ℚ) := by
  -- the magnitude of the result is `r = roundHalfAwayQ (m·2^e)`; the sign is carried along
  suffices h : ∃ (m'' : Nat) (e'' : Int), F64.roundHalfAway (.fin s m e) = .fin s m'' e'' ∧
      (m'' : ℚ) * 2 ^ e'' = ((roundHalfAwayQ ((m : ℚ) * 2 ^ e) : Int) : ℚ) by
    obtain ⟨m'', e'', h1, h2⟩ := h
    refine ⟨m'', e'', h1, ?_⟩
    rw [F64.val, F64.val, h2, roundHalfAwayQ_sgn]
    cases s <;> simp [F64.sgn]
  by_cases he : e ≥ 0
  · refine ⟨m, e, by unfold F64.roundHalfAway; simp only [he, ↓reduceIte], ?_⟩
    have : (m : ℚ) * 2 ^ e = (((m * 2 ^ e.toNat : Nat) : Int) : ℚ) := by
      rw [zpow_split, show (-e).toNat = 0 by omega, pow_zero, div_one]; push_cast; ring
    rw [this, roundHalfAwayQ_intCast]
  · rw [roundHalfAway_fin s m (by omega)]
    have hq : (m : ℚ) * 2 ^ e < 2 ^ 53 := by
      have := fin_lt_of_exp hm (show e ≤ 52 - 52 by omega)
      simpa using this
    have h0 : (0 : ℚ) ≤ (m : ℚ) * 2 ^ e := by have := two_zpow_pos e; positivity
    obtain ⟨hr0, hr53⟩ := roundHalfAwayQ_bounds (N := 2 ^ 53) h0 (by push_cast; exact hq)
    obtain ⟨m'', e'', h1, _, h2⟩ := round_nat_exact s (roundHalfAwayQ ((m : ℚ) * 2 ^ e)).toNat (by omega)
    exact ⟨m'', e'', h1, by rw [h2, ← Int.cast_natCast, Int.toNat_of_nonneg hr0]⟩

theorem ne_zero_of_val {m : Nat} {e : Int} {c : ℚ} (h : (m : ℚ) * 2 ^ e = c) (hc : c ≠ 0) : m ≠ 0 := by
  rintro rfl
  rw [Nat.cast_zero, zero_mul] at h
  exact hc h.symm

/-- Both conversions being exact, the quotient is a single rounding of the exact quotient. -/
theorem div_ofInt (a k : Int) {m : Nat} {e : Int} (hc : CanonME m e) (hv : (m : ℚ) * 2 ^ e = a.natAbs)
    (hk0 : 0 < k) (hk : k.natAbs ≤ 2 ^ 53) :
    F64.div (F64.ofInt a) (F64.ofInt k) = F64.round (decide (a < 0)) a.natAbs k.natAbs := by
  obtain ⟨m2, e2, g2, _, v2⟩ := ofInt_exact k hk
  have g1 : F64.ofInt a = F64.fin (decide (a < 0)) m e := round_nat _ hc hv
  rw [g1, g2, div_fin (a := a.natAbs) (b := k.natAbs) _ _ (by omega)
    (ne_zero_of_val v2 (by exact_mod_cast (by omega : k.natAbs ≠ 0))) (by rw [hv, v2]),
    decide_eq_false (by omega : ¬ k < 0), Bool.bne_false]

theorem mul_ofInt (a b : Int) (ha : a.natAbs ≤ 2 ^ 53) (hb : b.natAbs ≤ 2 ^ 53) :
    F64.mul (F64.ofInt a) (F64.ofInt b) = F64.round (decide (a < 0) != decide (b < 0)) (a * b).natAbs 1 := by
  obtain ⟨m1, e1, h1, _, v1⟩ := ofInt_exact a ha
  obtain ⟨m2, e2, h2, _, v2⟩ := ofInt_exact b hb
  rw [h1, h2, mul_fin (a := (a * b).natAbs) (b := 1) _ _ (by decide) (by rw [v1, v2, Int.natAbs_mul]; simp)]

theorem sign_mul (a b : Int) (ha : a ≠ 0) (hb : b ≠ 0) :
    decide (a * b < 0) = (decide (a < 0) != decide (b < 0)) := by
  rw [Bool.eq_iff_iff]
  simp only [decide_eq_true_eq, bne_iff_ne, ne_eq, decide_eq_decide, mul_neg_iff]
  omega

/-- `hne`: for a zero product the signs of the two zeros may differ. -/
theorem F64.mul_ofInt_exact (a b : Int) (ha : a.natAbs ≤ 2 ^ 53) (hb : b.natAbs ≤ 2 ^ 53)
    (hne : a * b ≠ 0) : F64.mul (F64.ofInt a) (F64.ofInt b) = F64.ofInt (a * b) := by
  rw [mul_ofInt a b ha hb, ← sign_mul a b (fun h => hne (by rw [h, Int.zero_mul])) (fun h => hne (by rw [h, Int.mul_zero]))]
  rfl

/-- The product cast back is exact whenever the product also fits `2^53` and the range of the cast (the sign of a zero
    product does not matter to the cast). -/
theorem mul_ofInt_cast (lo hi v k : Int) (hv : v.natAbs ≤ 2 ^ 53) (hk : k.natAbs ≤ 2 ^ 53)
    (hvk : (v * k).natAbs ≤ 2 ^ 53) (hlo : lo ≤ v * k) (hhi : v * k ≤ hi) :
    ∃ s m e, F64.mul (F64.ofInt v) (F64.ofInt k) = .fin s m e ∧ F64.toIntSat lo hi (.fin s m e) = v * k := by
  obtain ⟨m, e, hc, _, hm⟩ := exists_canon_nat (v * k).natAbs hvk
  have hval : (if (decide (v < 0) != decide (k < 0)) = true then -((v * k).natAbs : Int) else ((v * k).natAbs : Int)) =
      v * k := by
    by_cases h0 : v * k = 0
    · rw [h0]; simp
    · rw [← sign_mul v k (fun h => h0 (by rw [h, Int.zero_mul])) (fun h => h0 (by rw [h, Int.mul_zero]))]
      exact ite_neg_natAbs _
  exact ⟨_, m, e, by rw [mul_ofInt v k hv hk, round_nat _ hc hm],
    by rw [toIntSat_of_val lo hi _ hm (by rw [hval]; exact hlo) (by rw [hval]; exact hhi), hval]⟩

/-- A positive integer below `2^53` that is not a power of two absorbs every `x` within relative distance `2^-54`
    (half a unit in the last place is more than that, and `x` stays inside the binade). -/
theorem round_near_nat (s : Bool) {num den N : Nat} (hd : 0 < den) (hN0 : 0 < N) (hN : N < 2 ^ 53)
    (hpow : ∀ j : Nat, N * 2 ^ j ≠ 2 ^ 52) (h : |(num : ℚ) / den - N| * 2 ^ 54 < N) :
    F64.round s num den = F64.round s N 1 := by
  obtain ⟨m0, e0, hc, hm0, hv⟩ := exists_canon_nat N hN.le
  have hX := two_zpow_pos e0
  have hmX := mant_ge (hm0 hN0) e0
  have hmX' := mant_lt hc.1 e0
  have hNq : (N : ℚ) < 2 ^ 53 := by exact_mod_cast hN
  -- the mantissa is `N·2^j`, hence not `2^52`
  have he0 : e0 ≤ 0 := by
    by_contra hpos
    have := two_zpow_le (show 1 ≤ e0 by omega)
    rw [zpow_one] at this
    linarith only [this, hmX, hv, hNq]
  have hj : m0 = N * 2 ^ (-e0).toNat := by
    have := grid_nat N he0
    rw [← hv] at this
    exact_mod_cast (mul_right_cancel₀ hX.ne' this).symm
  have hm1 := mant_ge (show 2 ^ 52 ≤ m0 - 1 by have := hpow (-e0).toNat; have := hm0 hN0; omega) e0
  rw [Nat.cast_sub (by have := hm0 hN0; omega), Nat.cast_one] at hm1
  rw [round_nat s hc hv]
  have hlt := abs_lt.mp (show |(num : ℚ) / den - N| < N / 2 ^ 54 by rw [lt_div_iff₀ (by norm_num)]; exact h)
  have hn : num ≠ 0 := by
    rintro rfl
    rw [Nat.cast_zero, zero_div] at hlt
    linarith only [hlt.1, hNq, (by exact_mod_cast hN0 : (0 : ℚ) < N)]
  unfold F64.round
  rw [if_neg hn, roundPos_of_near (by omega) hd hc]
  · left; linarith only [hlt.1, hm1, hv, hX]
  · rw [hv, abs_sub_comm, abs_lt]
    constructor <;> linarith only [hlt.1, hlt.2, hmX', hv, hX]

end SqlDt.Lemmas
