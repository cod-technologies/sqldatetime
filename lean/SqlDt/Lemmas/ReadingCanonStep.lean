/-
  Lemmas/ReadingCanonStep: `Spec.collect` on the canonical reading of a lossless picture never fails and records exactly
  the components of the value (one token at a time, following `Spec.see`).
-/
import SqlDt.Lemmas.ReadingCanon
namespace SqlDt.Lemmas
open Spec

/-- What has been recorded, as the flags `see` keeps: `collect` on the canonical reading is simulated by `seeAll`. -/
def flagsOf (p : Parts) : Seen :=
  { year := p.year.isSome, month := p.month.isSome, day := p.day.isSome, hour24 := p.hour.any (·.1),
    hour12 := p.hour.any (fun h => !h.1), minute := p.minute.isSome, second := p.second.isSome, frac := p.usec.isSome,
    meridian := p.meridianSeen, dow := p.dow.isSome, doy := p.doy.isSome }

/-- What is recorded is what the value has.  Two clauses are not of the form `p.x = some v → …`: `step` sets `meridian`
    together with its own flag `meridianSeen`, and `neg` with the leading field of an interval (`false` otherwise). -/
structure Agree (ty : Ty) (c : Comps) (p : Parts) : Prop where
  year : ∀ y, p.year = some y → y = c.year
  month : ∀ m, p.month = some m → (m : Int) = c.month
  day : ∀ d, p.day = some d → (d : Int) = c.day
  hour24 : ∀ h, p.hour = some (true, h) → (h : Int) = c.hour
  hour12 : ∀ h, p.hour = some (false, h) → (h : Int) = hour12Of c.hour
  minute : ∀ m, p.minute = some m → (m : Int) = c.minute
  second : ∀ x, p.second = some x → (x : Int) = c.sec
  usec : ∀ u, p.usec = some u → (u : Int) = c.usec
  meridian : p.meridian = if p.meridianSeen then some (decide (12 ≤ c.hour)) else none
  dow : ∀ w, p.dow = some w → (w : Int) = c.dow0 + 1
  doy : ∀ n, p.doy = some n → (n : Int) = c.doy
  neg : p.neg = if (ty = .YM ∧ p.year.isSome = true) ∨ (ty = .DT ∧ p.day.isSome = true) then c.neg else false

theorem agree_init (ty : Ty) (c : Comps) : Agree ty c {} := by
  constructor <;> simp

/-- `10^11`: the bound of `foldDigits_pad` (`write_u32` has an 11-digit buffer). -/
theorem foldl_canon_frac (w n : Nat) (hn : n < 100000000000) :
    ((pad w n).map (· - 48)).foldl (fun a d => a * 10 + d) 0 = n := by
  have h1 := foldDigits_frac ((pad w n).map (· - 48))
  unfold fracBytes at h1
  rw [map_sub_add _ (pad_digs w n), foldDigits_pad w n hn] at h1
  exact_mod_cast h1.symm

theorem fracValue_canon (u : Int) (hu : 0 ≤ u ∧ u ≤ 999999) (q : Nat) (h6 : 6 ≤ q) (h9 : q ≤ 9) :
    ((fracValue ((pad q (fractionOf u q).toNat).map (· - 48)) : Nat) : Int) = u := by
  obtain ⟨f0, f1⟩ := fraction_bound u hu q
  have : (10:Nat) ^ q ≤ 10 ^ 9 := Nat.pow_le_pow_right (by decide) h9
  have hfold := foldl_canon_frac q (fractionOf u q).toNat (by omega)
  unfold fracValue
  simp only [List.length_map, (frac_pad u hu q (by omega)).1, hfold]
  -- `fractionOf u q = u · 10^(q−6)`, and rounding a multiple of `10^(q−6)` to that unit is exact
  have hq : q = 6 ∨ q = 7 ∨ q = 8 ∨ q = 9 := by omega
  rcases hq with rfl | rfl | rfl | rfl <;> simp [fractionOf] at f0 f1 ⊢ <;> omega

theorem isMinus_signOf (b : Bool) : isMinus (signOf b) = b := by cases b <;> rfl
theorem isMinus_none : isMinus Sign.none = false := rfl

theorem hour_none_of_flags (p : Parts) (h : ((flagsOf p).hour24 || (flagsOf p).hour12) = false) : p.hour = none := by
  cases hh : p.hour with
  | none => rfl
  | some v => obtain ⟨a, b⟩ := v; cases a <;> simp [flagsOf, hh] at h

/-- `see` on the recorded flags simulates `step` on the canonical lexeme: wherever `see` accepts the token, `step`
    records its component, and what is recorded still agrees with `c`.  (Each arm: the slot is free by `see`; `step`
    accepts the canonical value; only that slot's clause of `Agree` changes.) -/
theorem step_canon (ty : Ty) (now : Clock) (c : Comps) (hb : Bounds ty c) (p : Parts) (s' : Seen) (f : Field)
    (hwf : Field.WellFormed f) (hsee : see ty (flagsOf p) f = some s') (hag : Agree ty c p) :
    ∃ p', step ty now p f (canonLex ty c f) = some p' ∧ flagsOf p' = s' ∧ Agree ty c p' := by
  obtain ⟨happ, hy4, hf6⟩ := see_facts ty _ _ f hsee
  obtain ⟨hy, hm, _, hd, hh, hmi, hs, hu, hw, hdo⟩ := hb
  unfold see at hsee
  rw [if_neg (by simp [happ])] at hsee
  match f with
  | .Blank _ | .Hyphen | .Colon | .Slash | .Backslash | .Comma | .Dot | .Semicolon | .T =>
    cases hsee
    exact ⟨p, by simp [step, happ], rfl, hag⟩
  | .Minute =>
    obtain ⟨hfree, rfl⟩ := ite_none_eq_some hsee
    exact ⟨{ p with minute := some c.minute.toNat },
      by simp [step, happ, canonLex, numLex, isMinus, show p.minute.isSome = false from hfree], rfl,
      { hag with minute := by rintro x ⟨⟩; omega }⟩
  | .Second =>
    obtain ⟨hfree, rfl⟩ := ite_none_eq_some hsee
    exact ⟨{ p with second := some c.sec.toNat },
      by simp [step, happ, canonLex, numLex, isMinus, show p.second.isSome = false from hfree], rfl,
      { hag with second := by rintro x ⟨⟩; omega }⟩
  | .DayOfYear =>
    obtain ⟨hfree, rfl⟩ := ite_none_eq_some hsee
    exact ⟨{ p with doy := some c.doy.toNat },
      by simp [step, happ, canonLex, numLex, isMinus, show p.doy.isSome = false from hfree], rfl,
      { hag with doy := by rintro x ⟨⟩; omega }⟩
  | .Month | .MonthName _ =>
    obtain ⟨hfree, rfl⟩ := ite_none_eq_some hsee
    exact ⟨{ p with month := some c.month.toNat },
      by simp [step, happ, canonLex, numLex, isMinus, show p.month.isSome = false from hfree], rfl,
      { hag with month := by rintro x ⟨⟩; omega }⟩
  | .DayName _ =>
    obtain ⟨hfree, rfl⟩ := ite_none_eq_some hsee
    exact ⟨{ p with dow := some (c.dow0 + 1).toNat },
      by simp [step, happ, canonLex, show p.dow.isSome = false from hfree], rfl,
      { hag with dow := by rintro x ⟨⟩; omega }⟩
  | .DayOfWeek =>
    obtain ⟨hfree, rfl⟩ := ite_none_eq_some hsee
    have h1 : ¬ ((c.dow0 + 1).toNat < 1) := by omega
    have h2 : ¬ ((c.dow0 + 1).toNat > 7) := by omega
    exact ⟨{ p with dow := some (c.dow0 + 1).toNat },
      by simp [step, happ, canonLex, show p.dow.isSome = false from hfree, h1, h2], rfl,
      { hag with dow := by rintro x ⟨⟩; omega }⟩
  | .Year w =>
    obtain ⟨hfree, rfl⟩ := ite_none_eq_some hsee
    have hfy : p.year.isSome = false := (Bool.or_eq_false_iff.1 hfree).1
    have hdt : ty ≠ .DT := by rintro rfl; simp [applicable, hasDate] at happ
    refine ⟨{ p with year := some c.year, neg := (if ty = .YM then c.neg else false) }, ?_, rfl,
      { hag with year := by rintro x ⟨⟩; rfl, neg := by simp [hdt] }⟩
    by_cases hym : ty = .YM
    · subst hym
      have : ((c.year.toNat : Nat) : Int) = c.year := by omega
      simp [step, happ, canonLex, numLex, hfy, isMinus_signOf, completeYear, this]
    · obtain rfl := hy4 w rfl (by simpa [applicable, hym] using happ)
      simp only [hym, ↓reduceIte] at hy
      have : (((c.year % 10000).toNat : Nat) : Int) = c.year := by omega
      simp [step, happ, canonLex, numLex, hfy, isMinus, completeYear, hym, this]
  | .Day =>
    obtain ⟨hfree, rfl⟩ := ite_none_eq_some hsee
    have hfree : p.day.isSome = false := hfree
    have hym : ty ≠ .YM := by rintro rfl; simp [applicable, hasDate] at happ
    refine ⟨{ p with day := some c.day.toNat, neg := (if ty = .DT then c.neg else false) }, ?_, rfl,
      { hag with day := by rintro x ⟨⟩; omega, neg := by simp [hym] }⟩
    by_cases hdt : ty = .DT
    · subst hdt
      simp [step, happ, canonLex, numLex, hfree, isMinus_signOf]
    · simp [step, happ, canonLex, numLex, hfree, isMinus, hdt]
  | .Hour24 =>
    obtain ⟨hfree, rfl⟩ := ite_none_eq_some hsee
    obtain ⟨hfree, hmer⟩ := Bool.or_eq_false_iff.1 hfree
    have hnone := hour_none_of_flags p hfree
    exact ⟨{ p with hour := some (true, c.hour.toNat) },
      by simp [step, happ, canonLex, numLex, hnone, show p.meridianSeen = false from hmer, isMinus],
      by simp [flagsOf, hnone],
      { hag with hour24 := by rintro x ⟨⟩; omega, hour12 := by rintro x ⟨⟩ }⟩
  | .Hour12 =>
    obtain ⟨hfree, rfl⟩ := ite_none_eq_some hsee
    have hnone := hour_none_of_flags p hfree
    have hr := hour12Of_range c.hour
    have h1 : ¬ ((hour12Of c.hour).toNat < 1) := by omega
    have h2 : ¬ ((hour12Of c.hour).toNat > 12) := by omega
    exact ⟨{ p with hour := some (false, (hour12Of c.hour).toNat) },
      by simp [step, happ, canonLex, numLex, hnone, isMinus, h1, h2], by simp [flagsOf, hnone],
      { hag with hour12 := by rintro x ⟨⟩; omega, hour24 := by rintro x ⟨⟩ }⟩
  | .AmPm _ =>
    obtain ⟨hfree, rfl⟩ := ite_none_eq_some hsee
    simp only [flagsOf, Bool.or_eq_false_iff] at hfree
    exact ⟨{ p with meridianSeen := true, meridian := some (decide (12 ≤ c.hour)) },
      by simp [step, happ, canonLex, hfree.1, hfree.2], rfl, { hag with meridian := rfl }⟩
  | .Fraction q =>
    obtain ⟨hfree, rfl⟩ := ite_none_eq_some hsee
    have hfree : p.usec.isSome = false := (Bool.or_eq_false_iff.1 hfree).1
    have hfv := fracValue_canon c.usec hu (q.getD 6) (hf6 q rfl) (wf_fraction hwf).2.1
    simp only [canonLex]
    -- the digits are abstracted: with them in sight the unifier starts to evaluate `fracValue`
    generalize (pad (q.getD 6) (fractionOf c.usec (q.getD 6)).toNat).map (· - 48) = ds at hfv ⊢
    exact ⟨{ p with usec := some (fracValue ds) }, by simp [step, happ, hfree], rfl,
      { hag with usec := by rintro x ⟨⟩; exact hfv }⟩

theorem collect_canon (ty : Ty) (now : Clock) (c : Comps) (hb : Bounds ty c) : ∀ (fields : List Field) (p : Parts) (s' : Seen),
    seeAll ty (flagsOf p) fields = some s' → (∀ f ∈ fields, Field.WellFormed f) → Agree ty c p →
    ∃ p', collect ty now p (canon ty c fields) = some p' ∧ flagsOf p' = s' ∧ Agree ty c p'
  | [], p, s', h, _, hag => ⟨p, rfl, Option.some.inj h, hag⟩
  | f :: rest, p, s', h, hwf, hag => by
    obtain ⟨s1, h1, h2⟩ := seeAll_cons ty _ s' f rest h
    obtain ⟨p1, hs1, rfl, ha1⟩ := step_canon ty now c hb p s1 f (hwf f (by simp)) h1 hag
    obtain ⟨p', hc, hf', ha'⟩ := collect_canon ty now c hb rest p1 s' h2 (fun g hg => hwf g (by simp [hg])) ha1
    exact ⟨p', by simp only [canon, List.map_cons, collect, hs1, Option.bind_some]; exact hc, hf', ha'⟩

end SqlDt.Lemmas
