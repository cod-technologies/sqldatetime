/-
  Lemmas/ReadingRoundTrip: C06 — for every valid value of every type and every LOSSLESS picture, parsing the formatted
  text with the same picture returns the value (under any clock), and formatting the result reproduces the text.
  Derived from `parse_reading`: the rendered text is one reading of the picture (its canonical reading), and that reading
  denotes the value.  What is used of a value is bundled (`Split`) and established type by type; the argument about
  pictures (`roundtrip_core`) is made once.
-/
import SqlDt.Lemmas.ReadingCanonValue
import SqlDt.Lemmas.ReadingMain
import SqlDt.Lemmas.RenderValues
namespace SqlDt.Lemmas
open Spec

/-- What the round trip uses of a value `v`: components `c` in range, from which it is rendered and from which – once a
    complete picture has recorded them – `Spec.assemble` makes `v` again. -/
structure Split (ty : Ty) (v : Int) (c : Comps) : Prop where
  renders : Renders ty v c
  bounds : Bounds ty c
  neg : ty ≠ .YM → ty ≠ .DT → c.neg = false
  value : ∀ (now : Clock) (p : Parts), complete ty (flagsOf p) = true → Agree ty c p → assemble ty now p = some v

theorem roundtrip_core {ty : Ty} {v : Int} {c : Comps} (h : Split ty v c) (fields : List Field)
    (hwf : ∀ f ∈ fields, Field.WellFormed f) (hl : Lossless ty fields = true) (now : Clock) (text : Bytes)
    (hf : Formatter.format ty v fields none = .ok text) : ∃ r, Parser.parse ty fields text now = .ok (v, r) := by
  have hr : render ty c fields = some text := by
    rw [h.renders.format fields hwf] at hf
    cases hr : render ty c fields <;> rw [hr] at hf <;> cases hf
    rfl
  unfold Lossless at hl
  cases hsee : seeAll ty {} fields with
  | none => simp [hsee] at hl
  | some s' =>
    simp only [hsee, Bool.and_eq_true] at hl
    obtain ⟨⟨hcomp, hsep⟩, hlead⟩ := hl
    have hmem : ∀ q ∈ canon ty c fields, ∃ f ∈ fields, (f, canonLex ty c f) = q := fun q hq => List.mem_map.1 hq
    obtain ⟨p', hc, rfl, hag⟩ := collect_canon ty now c h.bounds fields {} s' hsee hwf (agree_init ty c)
    have hmain := parse_reading ty (canon ty c fields) 0 now
      (fun q hq => by obtain ⟨f, hf, rfl⟩ := hmem q hq; exact hwf f hf)
      (fun q hq => by obtain ⟨f, hf, rfl⟩ := hmem q hq; exact canon_fits ty c h.bounds f (hwf f hf))
      (canon_delimited ty c h.bounds fields (seeAll_mem ty fields {} _ hsee) hwf hsep)
    have hden : denote ty (canon ty c fields) now = some v := by
      unfold denote
      rw [hc]
      exact h.value now p' hcomp hag
    rw [hden, canon_write ty c h.bounds fields _ hsee hlead hwf h.neg text hr] at hmain
    simpa [canon, Function.comp_def] using hmain

theorem bounds_date (ty : Ty) (y m d h mi s us : Int) (hty : hasDate ty = true) (hv : ValidYMD y m d)
    (hh : 0 ≤ h ∧ h < 24) (hm : 0 ≤ mi ∧ mi < 60) (hs : 0 ≤ s ∧ s < 60) (hu : 0 ≤ us ∧ us < 1000000) :
    Bounds ty (compsOfTs y m d h mi s us) := by
  obtain ⟨y1, y9, m1, m12, d1, dd⟩ := hv
  have d31 := dim_le31 y m d dd
  have hdoy := doy_range y m d ⟨m1, m12, d1, dd⟩
  have hym : ty ≠ .YM := by rintro rfl; cases hty
  have hdt : ty ≠ .DT := by rintro rfl; cases hty
  constructor <;> simp only [compsOfTs, compsOfDate, hym, hdt, ↓reduceIte, weekday] <;> (try intro _) <;> omega

theorem split_date (y m d : Int) (hv : ValidYMD y m d) : Split .D (dayNumber y m d) (compsOfDate y m d) where
  renders := renders_date y m d hv
  bounds := bounds_date .D y m d 0 0 0 0 rfl hv (by omega) (by omega) (by omega) (by omega)
  neg _ _ := rfl
  value now p' hcomp hag := by
    rw [assemble_date .D rfl, dateOf_canon .D (compsOfDate y m d) p' now hv rfl rfl hag rfl hcomp]; rfl

theorem split_time (h mi s us : Int) (hh : 0 ≤ h ∧ h < 24) (hm : 0 ≤ mi ∧ mi < 60) (hs : 0 ≤ s ∧ s < 60)
    (hu : 0 ≤ us ∧ us < 1000000) : Split .T (Time.fromHmsUnchecked h mi s us) (compsOfTime h mi s us) := by
  have hb : Bounds .T (compsOfTime h mi s us) := by
    constructor <;> simp only [compsOfTime] <;> (try intro h; simp [hasDate] at h) <;> (try simp) <;> omega
  refine ⟨renders_time h mi s us hh hm hs hu, hb, fun _ _ => rfl, fun now p' hcomp hag => ?_⟩
  obtain ⟨t, ht, et⟩ := timeOf_canon .T _ p' hag hb rfl hcomp (fun h => by cases h)
  simp only [compsOfTime] at et
  have hv : (t : Int) = Time.fromHmsUnchecked h mi s us := by
    rw [et, Time.fromHmsUnchecked_eq]
  show (timeOf p').bind _ = _
  rw [ht, Option.bind_some, if_pos (by omega), hv]

theorem split_ts (ty : Ty) (hty : ty = .TS ∨ ty = .OD) (y m d h mi s us : Int) (hv : ValidYMD y m d)
    (hh : 0 ≤ h ∧ h < 24) (hm : 0 ≤ mi ∧ mi < 60) (hs : 0 ≤ s ∧ s < 60) (hu : 0 ≤ us ∧ us < 1000000)
    (hod : ty = .OD → us = 0) : Split ty (tsOf y m d h mi s us) (compsOfTs y m d h mi s us) := by
  have hd : hasDate ty = true ∧ hasTime ty = true := by rcases hty with rfl | rfl <;> exact ⟨rfl, rfl⟩
  have hb := bounds_date ty y m d h mi s us hd.1 hv hh hm hs hu
  have hvalid := tsOf_valid y m d h mi s us hv hh hm hs hu
  rw [isValidTimestamp_iff] at hvalid
  refine ⟨renders_ts ty hty y m d h mi s us hv hh hm hs hu, hb, fun _ _ => rfl, fun now p' hcomp hag => ?_⟩
  obtain ⟨t, ht, et⟩ := timeOf_canon ty _ p' hag hb hd.2 hcomp hod
  simp only [compsOfTs] at et
  have hval : 86400000000 * dayNumber y m d + (t : Int) = tsOf y m d h mi s us := by
    rw [et, tsOf, Time.fromHmsUnchecked_eq]; omega
  rw [assemble_date ty hd.1, dateOf_canon ty (compsOfTs y m d h mi s us) p' now hv rfl rfl hag hd.1 hcomp]
  rcases hty with rfl | rfl <;> simp only [Option.bind_some, valueAt, ht, compsOfTs, compsOfDate] <;>
    rw [hval, if_pos (by unfold maxTimestamp; omega)]

theorem split_ym (neg : Bool) (y mo : Int) (hy : 0 ≤ y ∧ y ≤ 178000000) (hm : 0 ≤ mo ∧ mo < 12)
    (hz : neg = true → y * 12 + mo ≠ 0) (hval : y * 12 + mo ≤ 2136000000) :
    Split .YM (ymOf neg y mo) (compsOfYM neg y mo) := by
  have hb : Bounds .YM (compsOfYM neg y mo) := by
    constructor <;> simp only [compsOfYM] <;> (try intro h; simp [hasDate] at h) <;> (try simp) <;> omega
  refine ⟨renders_ym neg y mo hy hm hz, hb, fun h => absurd rfl h, fun now p' hcomp hag => ?_⟩
  obtain ⟨hyear, hmonth⟩ : p'.year.isSome = true ∧ p'.month.isSome = true := by
    simpa [complete, flagsOf] using hcomp
  have e1 : p'.year.getD 0 = y := getD_of_agree hag.year hyear 0
  have e2 : ((p'.month.getD 0 : Nat) : Int) = mo := getD_of_agree hag.month hmonth 0
  have e3 : p'.neg = neg := by simpa [hyear, compsOfYM] using hag.neg
  show (if p'.month.getD 0 < 12 ∧ p'.year.getD 0 * 12 + ((p'.month.getD 0 : Nat) : Int) ≤ 2136000000 then _ else _) = _
  rw [e1, e2, if_pos ⟨by omega, hval⟩, e3]
  rfl

theorem split_dt (neg : Bool) (d h mi s us : Int) (hd : 0 ≤ d ∧ d ≤ 100000000) (hh : 0 ≤ h ∧ h < 24)
    (hm : 0 ≤ mi ∧ mi < 60) (hs : 0 ≤ s ∧ s < 60) (hu : 0 ≤ us ∧ us < 1000000)
    (hz : neg = true → dtMag d h mi s us ≠ 0) (hval : dtMag d h mi s us ≤ 8640000000000000000) :
    Split .DT (dtOf neg d h mi s us) (compsOfDT neg d h mi s us) := by
  have hb : Bounds .DT (compsOfDT neg d h mi s us) := by
    constructor <;> simp only [compsOfDT] <;> (try intro h; simp [hasDate] at h) <;> (try simp) <;> omega
  refine ⟨renders_dt neg d h mi s us hd hh hm hs hu hz, hb, fun _ h => absurd rfl h, fun now p' hcomp hag => ?_⟩
  obtain ⟨t, ht, et⟩ := timeOf_canon .DT _ p' hag hb rfl hcomp (fun h => by cases h)
  simp only [compsOfDT] at et
  have hday : p'.day.isSome = true := by
    simp only [complete, flagsOf, Bool.and_eq_true] at hcomp; exact hcomp.1.1.1.1
  have e1 : ((p'.day.getD 0 : Nat) : Int) = d := getD_of_agree hag.day hday 0
  have e3 : p'.neg = neg := by simpa [hday, compsOfDT] using hag.neg
  have emag : ((86400000000 * p'.day.getD 0 + t : Nat) : Int) = dtMag d h mi s us := by
    unfold dtMag; push_cast; rw [e1, et]; ring
  have hle : 86400000000 * p'.day.getD 0 + t ≤ 8640000000000000000 := by
    have : ((86400000000 * p'.day.getD 0 + t : Nat) : Int) ≤ 8640000000000000000 := by rw [emag]; exact hval
    exact_mod_cast this
  show (timeOf p').bind _ = _
  rw [ht, Option.bind_some]
  simp only []
  rw [if_pos hle, emag, e3]
  rfl

theorem split_exists (ty : Ty) (v : Int) (hv : ty.Valid v) : ∃ c, Split ty v c := by
  cases ty <;> simp only [Ty.Valid] at hv
  · obtain ⟨y, m, d, hymd, rfl⟩ := date_decompose v hv
    exact ⟨_, split_date y m d hymd⟩
  · obtain ⟨h, mi, s, us, hh, hm, hs, hu, rfl, _⟩ := decomp_T v ((isValidTime_iff v).1 hv)
    exact ⟨_, split_time h mi s us hh hm hs hu⟩
  · obtain ⟨y, m, d, h, mi, s, us, hymd, hh, hm, hs, hu, rfl, _⟩ := decomp_TS v hv
    exact ⟨_, split_ts .TS (Or.inl rfl) y m d h mi s us hymd hh hm hs hu nofun⟩
  · obtain ⟨neg, y, mo, hy, hm, hz, hval, rfl⟩ := decomp_YM v hv
    exact ⟨_, split_ym neg y mo hy hm hz hval⟩
  · obtain ⟨neg, d, h, mi, s, us, hd, hh, hm, hs, hu, hz, hval, rfl⟩ := decomp_DT v hv
    exact ⟨_, split_dt neg d h mi s us hd hh hm hs hu hz hval⟩
  · obtain ⟨lo, hi, hsec⟩ := (C16.isValidDate_iff v).1 hv
    obtain ⟨y, m, d, h, mi, s, us, hymd, hh, hm, hs, hu, rfl, eus⟩ := decomp_TS v ((isValidTimestamp_iff v).2 ⟨lo, hi⟩)
    exact ⟨_, split_ts .OD (Or.inr rfl) y m d h mi s us hymd hh hm hs hu fun _ => by omega⟩

theorem format_parse (ty : Ty) (v : Int) (hv : ty.Valid v) (fields : List Field) (hwf : ∀ f ∈ fields, Field.WellFormed f)
    (hl : Lossless ty fields = true) (now : Clock) (text : Bytes)
    (hf : Formatter.format ty v fields none = .ok text) :
    ∃ r, Parser.parse ty fields text now = .ok (v, r) := by
  obtain ⟨c, h⟩ := split_exists ty v hv
  exact roundtrip_core h fields hwf hl now text hf

theorem format_parse_format (ty : Ty) (v : Int) (hv : ty.Valid v) (fields : List Field)
    (hwf : ∀ f ∈ fields, Field.WellFormed f) (hl : Lossless ty fields = true) (now : Clock) (text : Bytes)
    (hf : Formatter.format ty v fields none = .ok text) :
    ∃ v' r, Parser.parse ty fields text now = .ok (v', r) ∧ Formatter.format ty v' fields none = .ok text := by
  obtain ⟨r, hp⟩ := format_parse ty v hv fields hwf hl now text hf
  exact ⟨v, r, hp, hf⟩

#print axioms format_parse
#print axioms format_parse_format

end SqlDt.Lemmas
