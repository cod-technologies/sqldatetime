/-
  Lemmas/AccuracyDays: `Timestamp::add_days(f64)` and `oracle::Date::add_days(f64)`, end to end over ℚ: ONE rounding
  (the product `days · 86400e6`; the constant converts exactly), then `f64::round` (nearest integer, ties away from
  zero, exact on doubles), the saturating cast, and the range gate; for the Oracle date, rounding to the second.
-/
import SqlDt.Lemmas.AccuracyScale

namespace SqlDt

/-- Nearest whole second of a microsecond count, ties away from zero.  In `SqlDt`, not `SqlDt.Lemmas`: statements of
    `Accuracy` and `C16` are written with it. -/
def roundSecQ (t : Int) : Int := 1000000 * roundHalfAwayQ ((t : ℚ) / 1000000)

namespace Lemmas
open Gen

theorem ts_gate (ts n : Int) (hts : isValidTimestamp ts) :
    (match checkedI64 (ts + clamp I64_MIN I64_MAX n) with
      | some r => Timestamp.tryFromUsecs r
      | none => .error .DateOutOfRange) =
    if isValidTimestamp (ts + n) then .ok (ts + n) else .error .DateOutOfRange := by
  refine (Timestamp.addIntervalDt_eq ts _).trans ?_
  rw [isValidTimestamp_iff] at hts
  unfold Timestamp.tryFromUsecs clamp I64_MIN I64_MAX
  -- where the cast saturates, `ts + n` is out of range with and without it
  by_cases h1 : n < -9223372036854775808
  · rw [if_pos h1, if_neg (by rw [isValidTimestamp_iff]; omega), if_neg (by rw [isValidTimestamp_iff]; omega)]
  · rw [if_neg h1]
    by_cases h2 : n > 9223372036854775807
    · rw [if_pos h2, if_neg (by rw [isValidTimestamp_iff]; omega), if_neg (by rw [isValidTimestamp_iff]; omega)]
    · rw [if_neg h2]

theorem ofInt_day : ∃ (m2 : Nat) (e2 : Int), F64.ofInt USECONDS_PER_DAY = .fin false m2 e2 ∧
    (m2 : ℚ) * 2 ^ e2 = 86400000000 := by
  obtain ⟨m, e, h1, _, h2⟩ := ofInt_exact 86400000000 (by decide)
  exact ⟨m, e, h1, by rw [h2]; norm_num⟩

/-- `Timestamp::add_days(ts, x)` for a finite `x = ±m·2^e`: with `y = fl(x · 86400e6)` the computed
    product (one rounding), the call overflows iff `y = ±∞`, and otherwise returns `ts + round(y)` through the exact
    range gate, where `round(y) = roundHalfAwayQ (val y)`. -/
theorem addDays_core (ts : Int) (hts : isValidTimestamp ts) (s : Bool) (m : Nat) (e : Int) :
    (F64.mul (.fin s m e) (F64.ofInt USECONDS_PER_DAY) = .inf s ∧
      Timestamp.addDays ts (.fin s m e) = .error .NumericOverflow ∧
      (2 : ℚ) ^ (1023 : Int) ≤ |F64.val (.fin s m e) * 86400000000|) ∨
    ∃ (m' : Nat) (e' : Int), F64.mul (.fin s m e) (F64.ofInt USECONDS_PER_DAY) = .fin s m' e' ∧
      Timestamp.addDays ts (.fin s m e) =
        (if isValidTimestamp (ts + roundHalfAwayQ (F64.val (.fin s m' e')))
          then .ok (ts + roundHalfAwayQ (F64.val (.fin s m' e'))) else .error .DateOutOfRange) ∧
      ((2 : ℚ) ^ (-1022 : Int) ≤ |F64.val (.fin s m e) * 86400000000| →
        |F64.val (.fin s m' e') - F64.val (.fin s m e) * 86400000000| ≤
          F64.u' * |F64.val (.fin s m e) * 86400000000|) ∧
      (|F64.val (.fin s m e) * 86400000000| < (2 : ℚ) ^ (-1022 : Int) →
        |F64.val (.fin s m' e')| < 2 ^ (-1021 : Int)) := by
  obtain ⟨m2, e2, hD, hDv⟩ := ofInt_day
  have R := mul_rounds s false m m2 e e2
  rw [← hD, hDv, Bool.bne_false] at R
  have hX : (0 : ℚ) ≤ (m : ℚ) * 2 ^ e := by have := two_zpow_pos e; positivity
  have hp : |F64.val (.fin s m e) * 86400000000| = (m : ℚ) * 2 ^ e * 86400000000 := by
    rw [abs_mul, val_fin_abs]; norm_num
  rw [hp]
  unfold Timestamp.addDays
  dsimp only
  generalize F64.mul (.fin s m e) (F64.ofInt USECONDS_PER_DAY) = y at *
  rcases R with ⟨hinf, hbig⟩ | ⟨m', e', hfin, hc, _, hrel, hexp⟩
  · left
    subst hinf
    exact ⟨rfl, rfl, hbig⟩
  · right
    subst hfin
    refine ⟨m', e', rfl, ?_, ?_, ?_⟩
    · obtain ⟨m'', e'', hr, hv⟩ := roundHalfAway_val s m' e' hc.1
      rw [hr]
      simp only [F64.isInfinite, F64.isNan, Bool.false_eq_true, if_false]
      rw [toI64_fin, hv, truncQ_intCast]
      exact ts_gate ts _ hts
    · intro hn
      have := hrel hn
      have hd : F64.val (.fin s m' e') - F64.val (.fin s m e) * 86400000000 =
          F64.sgn s * ((m' : ℚ) * 2 ^ e' - (m : ℚ) * 2 ^ e * 86400000000) := by
        simp only [F64.val]; ring
      rw [hd, abs_sgn_mul]; exact this
    · intro ht
      rw [val_fin_abs]; exact fin_lt_of_exp hc.1 (hexp (-1022) (by decide) ht)

/-- Rounding a quotient half away from zero, in truncating integer arithmetic. -/
theorem roundHalfAwayQ_div (u d : Int) (hd : 0 < d) :
    roundHalfAwayQ ((u : ℚ) / d) =
      if (if rrem u d < 0 then -rrem u d else rrem u d) * 2 ≥ d then
        (if u < 0 then rdiv u d - 1 else rdiv u d + 1)
      else rdiv u d := by
  have key : ∀ n : Nat, roundHalfAwayQ (((n : Int) : ℚ) / d) =
      if (n : Int) % d * 2 ≥ d then (n : Int) / d + 1 else (n : Int) / d := by
    intro n
    obtain ⟨k, rfl⟩ := Int.eq_ofNat_of_zero_le hd.le
    have hk : 0 < k := by omega
    have := floor_half_up n k hk
    unfold roundHalfAwayQ
    rw [if_pos (by positivity), Int.cast_natCast, Int.cast_natCast, this]
    split <;> rename_i h
    · rw [if_pos (by omega)]; rfl
    · rw [if_neg (by omega)]; rfl
  rcases le_or_gt 0 u with h | h
  · obtain ⟨n, rfl⟩ := Int.eq_ofNat_of_zero_le h
    have hr := Int.emod_nonneg (n : Int) hd.ne'
    rw [key, rdiv_nonneg_eq h, rrem_nonneg_eq h, if_neg (not_lt.mpr hr), if_neg (not_lt.mpr h)]
  · obtain ⟨n, hn⟩ := Int.eq_ofNat_of_zero_le (by omega : 0 ≤ -u)
    obtain rfl : u = -(n : Int) := by omega
    have hr := Int.emod_nonneg (n : Int) hd.ne'
    rw [Int.cast_neg, neg_div, roundHalfAwayQ_neg, key, rdiv_neg_left, rrem_neg_left,
      rdiv_nonneg_eq (by omega), rrem_nonneg_eq (by omega), if_pos h]
    split_ifs <;> omega

theorem roundToSecond_eq (u : Int) : OracleDate.roundToSecond u = roundSecQ u := by
  unfold OracleDate.roundToSecond roundSecQ USECONDS_PER_SECOND
  rw [show ((1000000 : ℚ)) = ((1000000 : Int) : ℚ) by norm_num, roundHalfAwayQ_div u 1000000 (by decide)]
  exact Int.mul_comm _ _

theorem od_addDays_eq (od : Int) (x : F64) :
    OracleDate.addDays od x =
      match Timestamp.addDays od x with
      | .ok t => if isValidTimestamp (roundSecQ t) then .ok (roundSecQ t) else .error .DateOutOfRange
      | .error err => .error err := by
  unfold OracleDate.addDays
  cases Timestamp.addDays od x with
  | error err => rfl
  | ok t => simp only [← roundToSecond_eq]; rfl

end Lemmas
end SqlDt
