/-
  Lemmas/WellFormed: every field of a compiled picture is well formed (`tryNew_wf`), because a compiled picture is a
  maximal-munch reading and the documented table builds only such fields.
-/
import SqlDt.Lemmas.Render
import SqlDt.Lemmas.Munch
namespace SqlDt.Lemmas
open SqlDt Gen Spec

theorem table_build_wf : ∀ t ∈ tokenTable, ∀ m : Bytes, Field.WellFormed (t.build m) := by
  simp only [tokenTable, List.forall_mem_cons]
  simp [Field.WellFormed]

theorem munchNext_wf (s : Bytes) (f : Field) (r : Bytes) (h : munchNext s = some (some (f, r))) : Field.WellFormed f := by
  unfold munchNext at h
  split at h
  · cases h
  · split at h
    · cases h; simp [Field.WellFormed]
    · split at h
      · rename_i t ht
        cases h
        exact table_build_wf t (longestMatch_mem _ t ht) _
      · cases h

theorem munchAux_wf : ∀ (fuel : Nat) (s : Bytes) (acc fields : List Field),
    (∀ f ∈ acc, Field.WellFormed f) → munchAux fuel s acc = .ok fields → ∀ f ∈ fields, Field.WellFormed f
  | 0, _, _, _, hacc, h => by cases h; simpa using hacc
  | fuel + 1, s, acc, fields, hacc, h => by
    rw [munchAux] at h
    split at h
    · cases h; simpa using hacc
    · cases h
    · rename_i f rest hn
      exact munchAux_wf fuel rest (f :: acc) fields (List.forall_mem_cons.2 ⟨munchNext_wf s f rest hn, hacc⟩)
        (Chk.ite_error_eq_ok.1 h).2

theorem tryNew_wf (pic : Bytes) (fields : List Field) (h : Lexer.tryNew pic = .ok fields) :
    ∀ f ∈ fields, Field.WellFormed f := by
  rw [tryNew_eq_munch] at h
  exact munchAux_wf _ _ _ _ (by simp) h

end SqlDt.Lemmas
