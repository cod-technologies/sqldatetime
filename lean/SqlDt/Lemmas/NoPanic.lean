/-
  Lemmas/NoPanic: `T::parse(text, picture)` never panics.  The field loop by `parseFields_post` (a compiled picture has
  no field that can panic), the steps after it (defaults, day of year, weekday, `TryFrom<NaiveDateTime>`) one by one.
-/
import SqlDt.Lemmas.WellFormed
import SqlDt.Lemmas.ParseStep
import SqlDt.Lemmas.Calendar
namespace SqlDt.Lemmas
open SqlDt Gen Parser Chk

theorem not_panics_of_wf {f : Field} (hf : Field.WellFormed f) : ¬ Field.Panics f := by
  intro hp
  cases f with
  | Invalid => exact hf
  | Fraction p =>
    cases p with
    | none => exact hp
    | some q => exact absurd hf.2 (Nat.not_le.2 hp)
  | _ => exact hp

theorem validateHms_np (h mi s : Int) : Time.validateHms h mi s ≠ .error .Panic := by
  unfold Time.validateHms; repeat' split
  all_goals nofun

theorem validateYmd_np (y m d : Int) : Date.validateYmd y m d ≠ .error .Panic := by
  unfold Date.validateYmd; repeat' split
  all_goals nofun

theorem tryFromYmd_np (y m d : Int) : Date.tryFromYmd y m d ≠ .error .Panic := by
  unfold Date.tryFromYmd; repeat' split
  all_goals nofun

theorem tryFromYm_np (y m : Int) : IntervalYM.tryFromYm y m ≠ .error .Panic := by
  unfold IntervalYM.tryFromYm; repeat' split
  all_goals nofun

theorem tryFromDhms_np (d h mi s us : Int) : IntervalDT.tryFromDhms d h mi s us ≠ .error .Panic := by
  unfold IntervalDT.tryFromDhms; repeat' split
  all_goals nofun

theorem tryFromNDT_np (ty : Ty) (dt : NDT) : tryFromNDT ty dt ≠ .error .Panic := by
  have gate {c : Prop} [Decidable c] {e : Err} {x : Int} (he : e ≠ .Panic := by decide) :
      (if c then (.ok x : Chk Int) else .error e) ≠ .error .Panic := Chk.gate_ne he
  cases ty <;> simp only [tryFromNDT]
  · exact tryFromYmd_np _ _ _
  · exact Chk.bind_ne_panic (validateHms_np _ _ _) fun _ _ => gate
  · exact Chk.bind_ne_panic (validateYmd_np _ _ _) fun _ _ => Chk.bind_ne_panic (validateHms_np _ _ _) fun _ _ => gate
  · split
    · exact Chk.bind_pure_ne_panic (tryFromYm_np _ _)
    · exact tryFromYm_np _ _
  · exact Chk.bind_ne_panic (tryFromDhms_np _ _ _ _ _) fun _ _ => Chk.bind_pure_ne_panic gate
  · exact Chk.bind_ne_panic (validateYmd_np _ _ _) fun _ _ => Chk.bind_ne_panic (validateHms_np _ _ _) fun _ _ =>
      Chk.bind_pure_ne_panic gate

/-- Decoding a day of year never indexes outside the cumulative table (`Cal.theMonthDayOfDays_ok`). -/
theorem theMonthDayOfDays_np (d : Int) (leap : Bool) (h1 : 1 ≤ d) : theMonthDayOfDays d leap ≠ .error .Panic := by
  obtain ⟨v, hv⟩ := Cal.theMonthDayOfDays_ok d leap h1
  rw [hv]; exact nofun

theorem resolveDoy_np (st : St) (dt : NDT) (hdoy : ∀ d, st.doy = some d → 0 ≤ d) : resolveDoy st dt ≠ .error .Panic := by
  unfold resolveDoy
  split
  · exact nofun
  · rename_i d hsome
    have hd0 : 0 ≤ d := hdoy d hsome
    simp only []
    split
    · exact nofun
    · rename_i hr
      have hd1 : d ≠ 0 := fun h => hr (Or.inl h)
      refine Chk.bind_ne_panic (theMonthDayOfDays_np d _ (by omega)) fun md _ => ?_
      repeat' split
      all_goals nofun

theorem finish_np (ty : Ty) (st : St) (dt : NDT) (reads : Nat) : finish ty st dt reads ≠ .error .Panic := by
  unfold finish
  split
  · refine Chk.bind_ne_panic (tryFromYmd_np _ _ _) fun date _ => ?_
    split
    · exact nofun
    · exact Chk.bind_pure_ne_panic (tryFromNDT_np ty dt)
  · exact Chk.bind_pure_ne_panic (tryFromNDT_np ty dt)

theorem parse_np (ty : Ty) (fields : List Field) (input : Bytes) (now : Clock)
    (hwf : ∀ f ∈ fields, Field.WellFormed f) : parse ty fields input now ≠ .error .Panic := by
  have hpost := parseFields_post (E := (· ≠ .Panic)) (by decide) ty now fields (initSt ty input)
    fun f hf h => absurd h (not_panics_of_wf (hwf f hf))
  unfold parse
  refine Chk.bind_ne_panic (fun h => hpost.of_error h rfl) fun st hp => ?_
  have hdoy := ((hpost.of_ok hp).nonNeg (nonNeg_initSt ty input)).doy
  split
  · exact nofun
  · exact Chk.bind_ne_panic (resolveDoy_np st _ hdoy) fun dt _ => finish_np ty st dt _

theorem tryNewAux_np (fuel : Nat) (input : Bytes) (acc : List Field) : Lexer.tryNewAux fuel input acc ≠ .error .Panic :=
  fun h => nomatch (tryNewAux_post fuel input acc).of_error h

end SqlDt.Lemmas
