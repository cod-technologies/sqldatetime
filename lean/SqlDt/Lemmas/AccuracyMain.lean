/-
  Lemmas/AccuracyMain: the end-to-end accuracy statements for the operations that go through `f64`, over ℚ.
  Props/C14Accuracy, C08Accuracy and C16Accuracy restate them under the properties' names and say there what each
  claims about the crate.  The headline statements need no normal-range hypothesis: where the exact result is too
  small for a normal double (below `2^-1021` for the scalings, `2^-1022` for `add_days`), it and the computed double
  both truncate/round to 0, so the exact result itself is the witness `q`.  The `_normal` variants say that in the
  normal range the witness is the computed double; `_ok` / `_err` read the headline statement from a given result.
-/
import SqlDt.Lemmas.AccuracyDays

namespace SqlDt
namespace Accuracy
open Gen Lemmas

/-- `f` is found by unification only where it is a constant applied to `q` (`truncQ q`); `ts_addDays_*` pass it. -/
theorem outcome_ok {R : Chk Int} {C : ℚ → Prop} {f : ℚ → Int} {V : Int → Prop} [DecidablePred V] {E : Err}
    {BIG : Prop}
    (h : (∃ q, C q ∧ R = if V (f q) then .ok (f q) else .error E) ∨ (R = .error .NumericOverflow ∧ BIG))
    (r : Int) (hr : R = .ok r) : ∃ q, C q ∧ r = f q ∧ V r := by
  rcases h with ⟨q, hc, hR⟩ | ⟨hR, _⟩
  · rw [hr] at hR
    by_cases hv : V (f q)
    · rw [if_pos hv] at hR; cases hR; exact ⟨q, hc, rfl, hv⟩
    · rw [if_neg hv] at hR; cases hR
  · rw [hr] at hR; cases hR

theorem outcome_err {R : Chk Int} {C : ℚ → Prop} {f : ℚ → Int} {V : Int → Prop} [DecidablePred V] {E : Err}
    {BIG : Prop}
    (h : (∃ q, C q ∧ R = if V (f q) then .ok (f q) else .error E) ∨ (R = .error .NumericOverflow ∧ BIG))
    (err : Err) (hr : R = .error err) : (err = E ∧ ∃ q, C q ∧ ¬ V (f q)) ∨ (err = .NumericOverflow ∧ BIG) := by
  rcases h with ⟨q, hc, hR⟩ | ⟨hR, hb⟩
  · rw [hr] at hR
    by_cases hv : V (f q)
    · rw [if_pos hv] at hR; cases hR
    · rw [if_neg hv] at hR; cases hR; exact Or.inl ⟨rfl, q, hc, hv⟩
  · rw [hr] at hR; cases hR; exact Or.inr ⟨rfl, hb⟩

theorem dt_valid_bound {v : Int} (hv : IntervalDT.isValidUsecs v) : v.natAbs ≤ 2 ^ 63 := by
  unfold IntervalDT.isValidUsecs INTERVAL_MAX_USECONDS at hv; omega

theorem ym_valid_bound {v : Int} (hv : IntervalYM.isValidMonths v) : v.natAbs ≤ 2 ^ 63 := by
  unfold IntervalYM.isValidMonths INTERVAL_MAX_MONTH at hv; omega

theorem isZero_fin {s : Bool} {m : Nat} {e : Int} (hm : m ≠ 0) : (F64.fin s m e).isZero = false := by
  cases m with
  | zero => exact absurd rfl hm
  | succ k => rfl

theorem cast_value (lo hi : Int) (s : Bool) (m : Nat) (e : Int) :
    F64.toIntSat lo hi (.fin s m e) = clamp lo hi (truncQ (F64.val (.fin s m e))) := toIntSat_fin lo hi s m e

theorem rounding_half_ulp (num den m : Nat) (e : Int) (hn : 0 < num) (hd : 0 < den)
    (h : F64.roundPos num den = some (m, e)) :
    |(m : ℚ) * 2 ^ e - (num : ℚ) / den| ≤ 2 ^ (e - 1) := by
  rw [zpow_sub_one₀ (by norm_num), ← div_eq_mul_inv]
  exact (roundPos_spec hn hd h).2.1

/-- Relative error of one rounding, `u' = 2^-53/(1+2^-53)`, when the result exponent is above the minimum. -/
theorem rounding_relative (num den m : Nat) (e : Int) (hn : 0 < num) (hd : 0 < den)
    (h : F64.roundPos num den = some (m, e)) (he : F64.EMIN < e) :
    |(m : ℚ) * 2 ^ e - (num : ℚ) / den| ≤ (2 ^ (-53 : Int) / (1 + 2 ^ (-53 : Int))) * ((num : ℚ) / den) :=
  roundPos_rel hn hd h (Or.inl he)

theorem rounding_relative_normal (num den m : Nat) (e : Int) (hn : 0 < num) (hd : 0 < den)
    (h : F64.roundPos num den = some (m, e)) (hx : (2 : ℚ) ^ (-1022 : Int) ≤ (num : ℚ) / den) :
    |(m : ℚ) * 2 ^ e - (num : ℚ) / den| ≤ (2 ^ (-53 : Int) / (1 + 2 ^ (-53 : Int))) * ((num : ℚ) / den) :=
  roundPos_rel hn hd h (Or.inr hx)

theorem conversion_accuracy (v : Int) (hv : v.natAbs ≤ 2 ^ 63) :
    (∃ (s : Bool) (m : Nat) (e : Int), F64.ofInt v = .fin s m e) ∧
    |F64.val (F64.ofInt v) - (v : ℚ)| ≤ (2 ^ (-53 : Int) / (1 + 2 ^ (-53 : Int))) * |(v : ℚ)| ∧
    (v.natAbs ≤ 2 ^ 53 → F64.val (F64.ofInt v) = (v : ℚ)) := by
  obtain ⟨m, e, h1, _, h3⟩ := ofInt_accuracy v hv
  exact ⟨⟨_, m, e, h1⟩, h3, ofInt_val_exact v⟩

theorem dt_mul_accuracy (v : Int) (hv : IntervalDT.isValidUsecs v) (s : Bool) (m : Nat) (e : Int) :
    (∃ q : ℚ, |q - (v : ℚ) * F64.val (.fin s m e)| ≤ 2 ^ (-52 : Int) * |(v : ℚ) * F64.val (.fin s m e)| ∧
      IntervalDT.mulF64 v (.fin s m e) =
        if IntervalDT.isValidUsecs (truncQ q) then .ok (truncQ q) else .error .IntervalOutOfRange) ∨
    (IntervalDT.mulF64 v (.fin s m e) = .error .NumericOverflow ∧
      (2 : ℚ) ^ (1023 : Int) ≤ (1 + F64.u') * |(v : ℚ) * F64.val (.fin s m e)|) := by
  rw [C14.dt_mul_classify]
  exact (scaled_gate _ _ _ dt_gate _ _ _ (mul_core v (dt_valid_bound hv) s m e)).1

theorem dt_mul_accuracy_normal (v : Int) (hv : IntervalDT.isValidUsecs v) (s : Bool) (m : Nat) (e : Int)
    (hn : (2 : ℚ) ^ (-1021 : Int) ≤ |(v : ℚ) * F64.val (.fin s m e)|) :
    (|F64.val (F64.mul (F64.ofInt v) (.fin s m e)) - (v : ℚ) * F64.val (.fin s m e)| ≤
        2 ^ (-52 : Int) * |(v : ℚ) * F64.val (.fin s m e)| ∧
      IntervalDT.mulF64 v (.fin s m e) =
        if IntervalDT.isValidUsecs (truncQ (F64.val (F64.mul (F64.ofInt v) (.fin s m e))))
        then .ok (truncQ (F64.val (F64.mul (F64.ofInt v) (.fin s m e)))) else .error .IntervalOutOfRange) ∨
    (IntervalDT.mulF64 v (.fin s m e) = .error .NumericOverflow ∧
      (2 : ℚ) ^ (1023 : Int) ≤ (1 + F64.u') * |(v : ℚ) * F64.val (.fin s m e)|) := by
  rw [C14.dt_mul_classify]
  exact (scaled_gate _ _ _ dt_gate _ _ _ (mul_core v (dt_valid_bound hv) s m e)).2 hn

theorem dt_mul_ok (v : Int) (hv : IntervalDT.isValidUsecs v) (s : Bool) (m : Nat) (e : Int) (r : Int)
    (h : IntervalDT.mulF64 v (.fin s m e) = .ok r) :
    ∃ q : ℚ, |q - (v : ℚ) * F64.val (.fin s m e)| ≤ 2 ^ (-52 : Int) * |(v : ℚ) * F64.val (.fin s m e)| ∧
      r = truncQ q ∧ IntervalDT.isValidUsecs r :=
  outcome_ok (dt_mul_accuracy v hv s m e) r h

theorem dt_mul_err (v : Int) (hv : IntervalDT.isValidUsecs v) (s : Bool) (m : Nat) (e : Int) (err : Err)
    (h : IntervalDT.mulF64 v (.fin s m e) = .error err) :
    (err = .IntervalOutOfRange ∧ ∃ q : ℚ,
      |q - (v : ℚ) * F64.val (.fin s m e)| ≤ 2 ^ (-52 : Int) * |(v : ℚ) * F64.val (.fin s m e)| ∧
      ¬ IntervalDT.isValidUsecs (truncQ q)) ∨
    (err = .NumericOverflow ∧ (2 : ℚ) ^ (1023 : Int) ≤ (1 + F64.u') * |(v : ℚ) * F64.val (.fin s m e)|) :=
  outcome_err (dt_mul_accuracy v hv s m e) err h

theorem dt_div_accuracy (v : Int) (hv : IntervalDT.isValidUsecs v) (s : Bool) (m : Nat) (e : Int) (hm : m ≠ 0) :
    (∃ q : ℚ, |q - (v : ℚ) / F64.val (.fin s m e)| ≤ 2 ^ (-52 : Int) * |(v : ℚ) / F64.val (.fin s m e)| ∧
      IntervalDT.divF64 v (.fin s m e) =
        if IntervalDT.isValidUsecs (truncQ q) then .ok (truncQ q) else .error .IntervalOutOfRange) ∨
    (IntervalDT.divF64 v (.fin s m e) = .error .NumericOverflow ∧
      (2 : ℚ) ^ (1023 : Int) ≤ (1 + F64.u') * |(v : ℚ) / F64.val (.fin s m e)|) := by
  rw [C14.dt_div_classify, isZero_fin hm, if_neg Bool.false_ne_true]
  exact (scaled_gate _ _ _ dt_gate _ _ _ (div_core v (dt_valid_bound hv) s m e hm)).1

theorem dt_div_accuracy_normal (v : Int) (hv : IntervalDT.isValidUsecs v) (s : Bool) (m : Nat) (e : Int)
    (hm : m ≠ 0) (hn : (2 : ℚ) ^ (-1021 : Int) ≤ |(v : ℚ) / F64.val (.fin s m e)|) :
    (|F64.val (F64.div (F64.ofInt v) (.fin s m e)) - (v : ℚ) / F64.val (.fin s m e)| ≤
        2 ^ (-52 : Int) * |(v : ℚ) / F64.val (.fin s m e)| ∧
      IntervalDT.divF64 v (.fin s m e) =
        if IntervalDT.isValidUsecs (truncQ (F64.val (F64.div (F64.ofInt v) (.fin s m e))))
        then .ok (truncQ (F64.val (F64.div (F64.ofInt v) (.fin s m e)))) else .error .IntervalOutOfRange) ∨
    (IntervalDT.divF64 v (.fin s m e) = .error .NumericOverflow ∧
      (2 : ℚ) ^ (1023 : Int) ≤ (1 + F64.u') * |(v : ℚ) / F64.val (.fin s m e)|) := by
  rw [C14.dt_div_classify, isZero_fin hm, if_neg Bool.false_ne_true]
  exact (scaled_gate _ _ _ dt_gate _ _ _ (div_core v (dt_valid_bound hv) s m e hm)).2 hn

theorem dt_div_ok (v : Int) (hv : IntervalDT.isValidUsecs v) (s : Bool) (m : Nat) (e : Int) (hm : m ≠ 0) (r : Int)
    (h : IntervalDT.divF64 v (.fin s m e) = .ok r) :
    ∃ q : ℚ, |q - (v : ℚ) / F64.val (.fin s m e)| ≤ 2 ^ (-52 : Int) * |(v : ℚ) / F64.val (.fin s m e)| ∧
      r = truncQ q ∧ IntervalDT.isValidUsecs r :=
  outcome_ok (dt_div_accuracy v hv s m e hm) r h

theorem ym_mul_accuracy (v : Int) (hv : IntervalYM.isValidMonths v) (s : Bool) (m : Nat) (e : Int) :
    (∃ q : ℚ, |q - (v : ℚ) * F64.val (.fin s m e)| ≤ 2 ^ (-52 : Int) * |(v : ℚ) * F64.val (.fin s m e)| ∧
      IntervalYM.mulF64 v (.fin s m e) =
        if IntervalYM.isValidMonths (truncQ q) then .ok (truncQ q) else .error .IntervalOutOfRange) ∨
    (IntervalYM.mulF64 v (.fin s m e) = .error .NumericOverflow ∧
      (2 : ℚ) ^ (1023 : Int) ≤ (1 + F64.u') * |(v : ℚ) * F64.val (.fin s m e)|) := by
  rw [C14.ym_mul_classify]
  exact (scaled_gate _ _ _ ym_gate _ _ _ (mul_core v (ym_valid_bound hv) s m e)).1

theorem ym_mul_ok (v : Int) (hv : IntervalYM.isValidMonths v) (s : Bool) (m : Nat) (e : Int) (r : Int)
    (h : IntervalYM.mulF64 v (.fin s m e) = .ok r) :
    ∃ q : ℚ, |q - (v : ℚ) * F64.val (.fin s m e)| ≤ 2 ^ (-52 : Int) * |(v : ℚ) * F64.val (.fin s m e)| ∧
      r = truncQ q ∧ IntervalYM.isValidMonths r :=
  outcome_ok (ym_mul_accuracy v hv s m e) r h

theorem ym_div_accuracy (v : Int) (hv : IntervalYM.isValidMonths v) (s : Bool) (m : Nat) (e : Int) (hm : m ≠ 0) :
    (∃ q : ℚ, |q - (v : ℚ) / F64.val (.fin s m e)| ≤ 2 ^ (-52 : Int) * |(v : ℚ) / F64.val (.fin s m e)| ∧
      IntervalYM.divF64 v (.fin s m e) =
        if IntervalYM.isValidMonths (truncQ q) then .ok (truncQ q) else .error .IntervalOutOfRange) ∨
    (IntervalYM.divF64 v (.fin s m e) = .error .NumericOverflow ∧
      (2 : ℚ) ^ (1023 : Int) ≤ (1 + F64.u') * |(v : ℚ) / F64.val (.fin s m e)|) := by
  rw [C14.ym_div_classify, isZero_fin hm, if_neg Bool.false_ne_true]
  exact (scaled_gate _ _ _ ym_gate _ _ _ (div_core v (ym_valid_bound hv) s m e hm)).1

theorem ym_div_ok (v : Int) (hv : IntervalYM.isValidMonths v) (s : Bool) (m : Nat) (e : Int) (hm : m ≠ 0) (r : Int)
    (h : IntervalYM.divF64 v (.fin s m e) = .ok r) :
    ∃ q : ℚ, |q - (v : ℚ) / F64.val (.fin s m e)| ≤ 2 ^ (-52 : Int) * |(v : ℚ) / F64.val (.fin s m e)| ∧
      r = truncQ q ∧ IntervalYM.isValidMonths r :=
  outcome_ok (ym_div_accuracy v hv s m e hm) r h

theorem u'_le : F64.u' ≤ 2 ^ (-53 : Int) := by rw [u'_eq]; norm_num

theorem tiny_half : (2 : ℚ) ^ (-1021 : Int) < 1 / 2 ∧ (2 : ℚ) ^ (-1022 : Int) < 1 / 2 := by
  have h1 : (2 : ℚ) ^ (-1021 : Int) < 2 ^ (-1 : Int) := two_zpow_lt_iff.mpr (by decide)
  have h2 : (2 : ℚ) ^ (-1022 : Int) < 2 ^ (-1 : Int) := two_zpow_lt_iff.mpr (by decide)
  rw [show (2 : ℚ) ^ (-1 : Int) = 1 / 2 by norm_num] at h1 h2
  exact ⟨h1, h2⟩

theorem ts_addDays_accuracy (ts : Int) (hts : isValidTimestamp ts) (s : Bool) (m : Nat) (e : Int) :
    (∃ q : ℚ, |q - F64.val (.fin s m e) * 86400000000| ≤ 2 ^ (-53 : Int) * |F64.val (.fin s m e) * 86400000000| ∧
      Timestamp.addDays ts (.fin s m e) =
        if isValidTimestamp (ts + roundHalfAwayQ q) then .ok (ts + roundHalfAwayQ q) else .error .DateOutOfRange) ∨
    (Timestamp.addDays ts (.fin s m e) = .error .NumericOverflow ∧
      (2 : ℚ) ^ (1023 : Int) ≤ |F64.val (.fin s m e) * 86400000000|) := by
  rcases addDays_core ts hts s m e with ⟨_, h2, h3⟩ | ⟨m', e', _, hR, hrel, htiny⟩
  · exact Or.inr ⟨h2, h3⟩
  · left
    rcases le_or_gt ((2 : ℚ) ^ (-1022 : Int)) |F64.val (.fin s m e) * 86400000000| with hn | hn
    · exact ⟨_, le_trans (hrel hn) (mul_le_mul_of_nonneg_right u'_le (abs_nonneg _)), hR⟩
    · refine ⟨F64.val (.fin s m e) * 86400000000, ?_, ?_⟩
      · rw [sub_self, abs_zero]; have := two_zpow_pos (-53); positivity
      · rw [hR, roundHalfAwayQ_small _ (lt_trans (htiny hn) tiny_half.1),
          roundHalfAwayQ_small _ (lt_trans hn tiny_half.2)]

theorem ts_addDays_accuracy_normal (ts : Int) (hts : isValidTimestamp ts) (s : Bool) (m : Nat) (e : Int)
    (hn : (2 : ℚ) ^ (-1022 : Int) ≤ |F64.val (.fin s m e) * 86400000000|) :
    (|F64.val (F64.mul (.fin s m e) (F64.ofInt 86400000000)) - F64.val (.fin s m e) * 86400000000| ≤
        F64.u' * |F64.val (.fin s m e) * 86400000000| ∧
      Timestamp.addDays ts (.fin s m e) =
        if isValidTimestamp (ts + roundHalfAwayQ (F64.val (F64.mul (.fin s m e) (F64.ofInt 86400000000))))
        then .ok (ts + roundHalfAwayQ (F64.val (F64.mul (.fin s m e) (F64.ofInt 86400000000))))
        else .error .DateOutOfRange) ∨
    (Timestamp.addDays ts (.fin s m e) = .error .NumericOverflow ∧
      (2 : ℚ) ^ (1023 : Int) ≤ |F64.val (.fin s m e) * 86400000000|) := by
  rcases addDays_core ts hts s m e with ⟨_, h2, h3⟩ | ⟨m', e', hy, hR, hrel, _⟩
  · exact Or.inr ⟨h2, h3⟩
  · left
    have hy' : F64.mul (.fin s m e) (F64.ofInt 86400000000) = .fin s m' e' := hy
    rw [hy']
    exact ⟨hrel hn, hR⟩

theorem ts_addDays_ok (ts : Int) (hts : isValidTimestamp ts) (s : Bool) (m : Nat) (e : Int) (r : Int)
    (h : Timestamp.addDays ts (.fin s m e) = .ok r) :
    (∃ q : ℚ, |q - F64.val (.fin s m e) * 86400000000| ≤ 2 ^ (-53 : Int) * |F64.val (.fin s m e) * 86400000000| ∧
      r = ts + roundHalfAwayQ q ∧ isValidTimestamp r) ∧
    |(r : ℚ) - (ts : ℚ) - F64.val (.fin s m e) * 86400000000| ≤
      1 / 2 + 2 ^ (-53 : Int) * |F64.val (.fin s m e) * 86400000000| := by
  obtain ⟨q, hc, hr, hv⟩ := outcome_ok (f := fun q => ts + roundHalfAwayQ q) (ts_addDays_accuracy ts hts s m e) r h
  refine ⟨⟨q, hc, hr, hv⟩, ?_⟩
  have h1 := roundHalfAwayQ_err q
  rw [hr]
  have : ((ts + roundHalfAwayQ q : Int) : ℚ) - (ts : ℚ) - F64.val (.fin s m e) * 86400000000 =
      (((roundHalfAwayQ q : Int) : ℚ) - q) + (q - F64.val (.fin s m e) * 86400000000) := by push_cast; ring
  rw [this]
  exact le_trans (abs_add_le _ _) (add_le_add h1 hc)

theorem ts_addDays_err (ts : Int) (hts : isValidTimestamp ts) (s : Bool) (m : Nat) (e : Int) (err : Err)
    (h : Timestamp.addDays ts (.fin s m e) = .error err) :
    (err = .DateOutOfRange ∧ ∃ q : ℚ,
      |q - F64.val (.fin s m e) * 86400000000| ≤ 2 ^ (-53 : Int) * |F64.val (.fin s m e) * 86400000000| ∧
      ¬ isValidTimestamp (ts + roundHalfAwayQ q)) ∨
    (err = .NumericOverflow ∧ (2 : ℚ) ^ (1023 : Int) ≤ |F64.val (.fin s m e) * 86400000000|) :=
  outcome_err (f := fun q => ts + roundHalfAwayQ q) (ts_addDays_accuracy ts hts s m e) err h

theorem roundToSecond_spec (u : Int) :
    OracleDate.roundToSecond u = 1000000 * roundHalfAwayQ ((u : ℚ) / 1000000) := roundToSecond_eq u

/-- Of the receiver only its range is used (`OracleDate.isValidDate` = `isValidTimestamp` and a whole second). -/
theorem od_addDays_accuracy (od : Int) (hod : isValidTimestamp od) (s : Bool) (m : Nat) (e : Int) :
    (∃ q : ℚ, |q - F64.val (.fin s m e) * 86400000000| ≤ 2 ^ (-53 : Int) * |F64.val (.fin s m e) * 86400000000| ∧
      OracleDate.addDays od (.fin s m e) =
        if isValidTimestamp (od + roundHalfAwayQ q) ∧ isValidTimestamp (roundSecQ (od + roundHalfAwayQ q))
        then .ok (roundSecQ (od + roundHalfAwayQ q)) else .error .DateOutOfRange) ∨
    (OracleDate.addDays od (.fin s m e) = .error .NumericOverflow ∧
      (2 : ℚ) ^ (1023 : Int) ≤ |F64.val (.fin s m e) * 86400000000|) := by
  rw [od_addDays_eq]
  rcases ts_addDays_accuracy od hod s m e with ⟨q, hc, hR⟩ | ⟨hR, hb⟩
  · left
    refine ⟨q, hc, ?_⟩
    rw [hR]
    by_cases h1 : isValidTimestamp (od + roundHalfAwayQ q)
    · rw [if_pos h1]
      by_cases h2 : isValidTimestamp (roundSecQ (od + roundHalfAwayQ q))
      · simp only [h2, if_true, h1, and_self]
      · simp only [h2, if_false, and_false]
    · rw [if_neg h1, if_neg (fun h => h1 h.1)]
  · right; rw [hR]; exact ⟨rfl, hb⟩

theorem od_addDays_ok (od : Int) (hod : isValidTimestamp od) (s : Bool) (m : Nat) (e : Int) (r : Int)
    (h : OracleDate.addDays od (.fin s m e) = .ok r) :
    ∃ q : ℚ, |q - F64.val (.fin s m e) * 86400000000| ≤ 2 ^ (-53 : Int) * |F64.val (.fin s m e) * 86400000000| ∧
      r = roundSecQ (od + roundHalfAwayQ q) ∧ isValidTimestamp (od + roundHalfAwayQ q) ∧ isValidTimestamp r ∧
      |(r : ℚ) - ((od + roundHalfAwayQ q : Int) : ℚ)| ≤ 500000 := by
  rcases od_addDays_accuracy od hod s m e with ⟨q, hc, hR⟩ | ⟨hR, _⟩
  · rw [h] at hR
    by_cases hv : isValidTimestamp (od + roundHalfAwayQ q) ∧ isValidTimestamp (roundSecQ (od + roundHalfAwayQ q))
    · rw [if_pos hv] at hR; cases hR
      refine ⟨q, hc, rfl, hv.1, hv.2, ?_⟩
      have := roundHalfAwayQ_err (((od + roundHalfAwayQ q : Int) : ℚ) / 1000000)
      unfold roundSecQ
      rw [abs_le] at this ⊢
      push_cast at this ⊢
      constructor <;> linarith [this.1, this.2]
    · rw [if_neg hv] at hR; cases hR
  · rw [h] at hR; cases hR

end Accuracy
end SqlDt
