/-
  Lemmas/ReadingAssemble: after the field loop — clock defaults, day-of-year resolution, weekday check and the type's
  `TryFrom<NaiveDateTime>` give `Spec.assemble` (`final_sound`).  `Chk.val?` turns each of the crate's checks into an
  `if` on `Option`, and a cascade of them into one `if` on the conjunction of what they require: the form the
  specification has.  First the types without a date (time of day, the two intervals), then those with one (date,
  timestamp, Oracle-style date).
-/
import SqlDt.Lemmas.ReadingConc
import SqlDt.Lemmas.ReadingDoy
import SqlDt.Props.C01
import SqlDt.Props.C13
import SqlDt.Props.C16
namespace SqlDt.Lemmas
open SqlDt Gen Spec Parser Chk

/-- What `parse` does after the field loop and the left-over check. -/
def tailOf (ty : Ty) (st : St) (now : Clock) : Chk (Int × Nat) :=
  (resolveDoy st (applyDefaults ty st now).1) >>= fun dt => finish ty st dt (applyDefaults ty st now).2

theorem tail_nodate (ty : Ty) (now : Clock) (p : Parts) (s : Bytes) (r : Nat) (hd : hasDate ty = false)
    (hok : PartsOK ty p) :
    (val? (tailOf ty (conc ty p s r) now)).map Prod.fst = val? (tryFromNDT ty (conc ty p s r).dt) := by
  obtain ⟨h1, h2⟩ := hok.noDate hd
  have hi : ty.info.HAS_DATE = false := by rw [info_hasDate]; exact hd
  simp only [tailOf, applyDefaults, hi, Bool.false_eq_true, ↓reduceIte, resolveDoy, conc, h1, h2, Option.map_none, finish,
    pure_eq, ok_bind]
  cases tryFromNDT ty _ <;> rfl

/-! In what follows no `if` whose condition compares a product like `h * 3600000000` may be decided by evaluation
    (`decide`, `rfl`, `simp` with `↓reduceIte` on it): `timeOf` writes the variable first, and the kernel then unfolds
    the multiplication along the literal ("deep recursion").  Such an `if` is rewritten (`if_pos`, `if_neg`,
    `if_congr`), and `(some a).bind f` is not reduced by `Option.bind_some`, which holds by evaluation. -/

theorem timeOf_bind {α} (p : Parts) (g : Nat → Option α) :
    (timeOf p).bind g =
      if hourOf p < 24 ∧ p.minute.getD 0 < 60 ∧ p.second.getD 0 < 60 then
        g (hourOf p * 3600000000 + p.minute.getD 0 * 60000000 + p.second.getD 0 * 1000000 + p.usec.getD 0)
      else none := by
  unfold timeOf
  by_cases hc : hourOf p < 24 ∧ p.minute.getD 0 < 60 ∧ p.second.getD 0 < 60
  · rw [if_pos hc, if_pos hc]; rfl
  · rw [if_neg hc, if_neg hc]; rfl

section
variable {α β : Type} {c q : Prop} [Decidable c] [Decidable q] {a : α} {o : Option α}

theorem guard_some : (if c then none else some a) = if ¬ c then some a else none := by split <;> simp [*]
theorem guard_ite : (if c then none else if q then o else none) = if ¬ c ∧ q then o else none := by split <;> simp [*]
theorem ite_some_bind {f : α → Option β} : (if c then some a else none).bind f = if c then f a else none := by
  split <;> rfl

end

theorem validateHms_val (h mi s : Int) :
    val? (Time.validateHms h mi s) = if h < 24 ∧ mi < 60 ∧ s < 60 then some () else none := by
  unfold Time.validateHms HOURS_PER_DAY MINUTES_PER_HOUR SECONDS_PER_MINUTE
  simp only [val?_guard, val?_ok, guard_some, guard_ite]
  exact if_congr (by omega) rfl rfl

theorem tryFromNDT_T (dt : NDT) (h mi s us : Nat) (e1 : dt.hour = (h : Int)) (e2 : dt.minute = (mi : Int))
    (e3 : dt.sec = (s : Int)) (e4 : dt.usec = (us : Int)) :
    val? (tryFromNDT .T dt) =
      if h < 24 ∧ mi < 60 ∧ s < 60 then
        if h * 3600000000 + mi * 60000000 + s * 1000000 + us < 86400000000 then
          some ((h * 3600000000 + mi * 60000000 + s * 1000000 + us : Nat) : Int)
        else none
      else none := by
  simp only [tryFromNDT, e1, e2, e3, e4, val?_bind, validateHms_val, ite_some_bind, Time.tryFromUsecs, val?_gate,
    USECONDS_PER_HOUR, USECONDS_PER_MINUTE, USECONDS_PER_SECOND]
  refine if_congr (by omega) (if_congr ?_ (congrArg some (by omega)) rfl) rfl
  rw [isValidTime_iff]; omega

theorem final_T (now : Clock) (p : Parts) (s : Bytes) (r : Nat) :
    val? (tryFromNDT .T (conc .T p s r).dt) = assemble .T now p := by
  rw [tryFromNDT_T _ (hourOf p) (p.minute.getD 0) (p.second.getD 0) (p.usec.getD 0) rfl rfl rfl rfl]
  simp only [assemble, timeOf_bind]

theorem tryFromYm_val (Y : Int) (mo : Nat) :
    val? (IntervalYM.tryFromYm Y (mo : Int)) =
      if mo < 12 ∧ Y * 12 + (mo : Int) ≤ 2136000000 then some (Y * 12 + (mo : Int)) else none := by
  simp only [C13.ym_tryFromYm_spec, val?_guard, val?_ok, guard_some, guard_ite]
  exact if_congr (by omega) rfl rfl

theorem final_YM (now : Clock) (p : Parts) (s : Bytes) (r : Nat) (hok : PartsOK .YM p) :
    val? (tryFromNDT .YM (conc .YM p s r).dt) = assemble .YM now p := by
  obtain ⟨Y, hY, hY0, hY9⟩ : ∃ Y : Int, p.year.getD 0 = Y ∧ 0 ≤ Y ∧ Y < 1000000000 := by
    cases hy : p.year with
    | none => exact ⟨0, rfl, by omega, by omega⟩
    | some y => obtain ⟨a, b⟩ := hok.ymYear rfl y hy; exact ⟨y, rfl, a, b⟩
  have hyr : (conc .YM p s r).dt.year = if p.neg = true then -Y else Y := by
    simp only [conc, yearRep]
    cases hy : p.year with
    | none => simp [hy] at hY; subst hY; simp
    | some y => simp [hy] at hY; subst hY; simp
  have hasu : asU32 Y = Y := by unfold asU32; omega
  simp only [assemble, hY, tryFromNDT, hyr, show (conc .YM p s r).dt.month = ((p.month.getD 0 : Nat) : Int) from rfl,
    show (conc .YM p s r).dt.negative = p.neg from rfl]
  cases p.neg
  · simp only [Bool.false_eq_true, ↓reduceIte, hasu, tryFromYm_val Y _]
  · simp only [↓reduceIte, Int.neg_neg, hasu, val?_bind, tryFromYm_val Y _, IntervalYM.negate, pure_eq, val?_ok]
    split <;> rfl

theorem tryFromNDT_DT (dt : NDT) (d h mi s us : Nat) (neg : Bool) (e0 : dt.day = (d : Int)) (e1 : dt.hour = (h : Int))
    (e2 : dt.minute = (mi : Int)) (e3 : dt.sec = (s : Int)) (e4 : dt.usec = (us : Int)) (en : dt.negative = neg) :
    val? (tryFromNDT .DT dt) =
      if h < 24 ∧ mi < 60 ∧ s < 60 then
        if 86400000000 * d + (h * 3600000000 + mi * 60000000 + s * 1000000 + us) ≤ 8640000000000000000 then
          some (if neg = true then
            -((86400000000 * d + (h * 3600000000 + mi * 60000000 + s * 1000000 + us) : Nat) : Int)
          else ((86400000000 * d + (h * 3600000000 + mi * 60000000 + s * 1000000 + us) : Nat) : Int))
        else none
      else none := by
  simp only [tryFromNDT, e0, e1, e2, e3, e4, en, val?_bind, C13.dt_tryFromDhms_spec, val?_guard, val?_ok, guard_some,
    guard_ite, ite_some_bind, IntervalDT.tryFromUsecs, val?_gate, pure_eq]
  -- the crate bounds the days first and the total afterwards, the specification the total only
  rw [← ite_and, ← ite_and]
  refine if_congr ?_ (congrArg some ?_) rfl
  · rw [IntervalDT.isValidUsecs_iff]; omega
  · rw [IntervalDT.negate]
    congr 1 <;> omega

theorem final_DT (now : Clock) (p : Parts) (s : Bytes) (r : Nat) :
    val? (tryFromNDT .DT (conc .DT p s r).dt) = assemble .DT now p := by
  have hday : (conc .DT p s r).dt.day = ((p.day.getD 0 : Nat) : Int) := by
    simp only [conc, dayRep]; cases p.day <;> simp
  rw [tryFromNDT_DT _ (p.day.getD 0) (hourOf p) (p.minute.getD 0) (p.second.getD 0) (p.usec.getD 0) p.neg hday rfl rfl
    rfl rfl rfl]
  simp only [assemble, timeOf_bind]

theorem tryFromYmd_val (y m d : Int) :
    val? (Date.tryFromYmd y m d) = if ValidYMD y m d then some (dayNumber y m d) else none := by
  split
  · rw [C01.tryFromYmd_valid _ _ _ ‹_›]; rfl
  · cases h : Date.tryFromYmd y m d with
    | error e => rfl
    | ok v => exact absurd ((C01.tryFromYmd_eq_ok y m d v).1 h).1 ‹_›

/-- `validate_ymd` makes the checks of `try_from_ymd`. -/
theorem validateYmd_val (y m d : Int) :
    val? (Date.validateYmd y m d) = if ValidYMD y m d then some () else none := by
  have : val? (Date.validateYmd y m d) = (val? (Date.tryFromYmd y m d)).map fun _ => () := by
    unfold Date.tryFromYmd Date.validateYmd
    repeat' split
    all_goals rfl
  rw [this, tryFromYmd_val]
  split <;> rfl

theorem hasDate_ne (ty : Ty) (hd : hasDate ty = true) : ty ≠ .YM ∧ ty ≠ .DT ∧ ty ≠ .T := by
  cases ty <;> simp [hasDate] at hd ⊢

/-- The date part after the clock defaults. -/
def defaulted (ty : Ty) (p : Parts) (s : Bytes) (r : Nat) (now : Clock) : NDT :=
  { (conc ty p s r).dt with year := p.year.getD now.year, month := (p.month.map Int.ofNat).getD now.month }

theorem applyDefaults_conc (ty : Ty) (hd : hasDate ty = true) (p : Parts) (s : Bytes) (r : Nat) (now : Clock) :
    (applyDefaults ty (conc ty p s r) now).1 = defaulted ty p s r now := by
  obtain ⟨hym, _, _⟩ := hasDate_ne ty hd
  have hi : ty.info.HAS_DATE = true := by rw [info_hasDate]; exact hd
  unfold applyDefaults defaulted
  rw [hi]
  cases hy : p.year <;> cases hm : p.month <;> simp [conc, yearRep, hy, hm, hym]

theorem defaulted_day (ty : Ty) (hd : hasDate ty = true) (p : Parts) (s : Bytes) (r : Nat) (now : Clock) :
    (defaulted ty p s r now).day = ((p.day.getD 1 : Nat) : Int) := by
  obtain ⟨_, hdt, _⟩ := hasDate_ne ty hd
  simp only [defaulted, conc, dayRep]
  cases p.day <;> simp [hdt]

/-- the Oracle-style date goes through the timestamp conversion and then drops the fraction -/
theorem tryFromNDT_OD (dt : NDT) :
    tryFromNDT .OD dt = tryFromNDT .TS dt >>= fun ts => pure (OracleDate.fromTimestamp ts) := by
  simp only [tryFromNDT]
  cases Date.validateYmd dt.year dt.month dt.day <;> cases Time.validateHms dt.hour dt.minute dt.sec <;> rfl

theorem tryFromNDT_TS (ty : Ty) (hty : ty = .TS ∨ ty = .OD) (dt : NDT) (h mi s us : Nat)
    (e1 : dt.hour = (h : Int)) (e2 : dt.minute = (mi : Int)) (e3 : dt.sec = (s : Int)) (e4 : dt.usec = (us : Int))
    (hus : ty = .OD → us = 0) :
    val? (tryFromNDT ty dt) =
      if ValidYMD dt.year dt.month dt.day then
        if h < 24 ∧ mi < 60 ∧ s < 60 then
          if 86400000000 * dayNumber dt.year dt.month dt.day +
              ((h * 3600000000 + mi * 60000000 + s * 1000000 + us : Nat) : Int) ≤ 253402300799999999 then
            some (86400000000 * dayNumber dt.year dt.month dt.day +
              ((h * 3600000000 + mi * 60000000 + s * 1000000 + us : Nat) : Int))
          else none
        else none
      else none := by
  generalize hR : (if ValidYMD dt.year dt.month dt.day then _ else none : Option Int) = R
  have hts : val? (tryFromNDT .TS dt) = R := by
    simp only [← hR, tryFromNDT, e1, e2, e3, e4, val?_bind, validateYmd_val, validateHms_val, ite_some_bind,
      Timestamp.tryFromUsecs, val?_gate, USECONDS_PER_DAY, USECONDS_PER_HOUR, USECONDS_PER_MINUTE, USECONDS_PER_SECOND]
    refine ite_congr rfl (fun hv => ?_) fun _ => rfl
    have hrange := dayNumber_range _ _ _ hv
    have hdn := fromYmd_eq_dayNumber dt.year dt.month dt.day (by have := hv.1; omega) ⟨hv.2.2.1, hv.2.2.2.1⟩
    unfold Date.fromYmdUnchecked at hdn
    rw [hdn]
    refine if_congr (by omega) (if_congr ?_ (congrArg some (by omega)) rfl) rfl
    rw [isValidTimestamp_iff]; omega
  rcases hty with rfl | rfl
  · exact hts
  · rw [tryFromNDT_OD, val?_bind, hts]
    cases hx : R with
    | none => rfl
    | some x =>
      obtain rfl := hus rfl
      simp only [← hR, Option.ite_none_right_eq_some, Option.some.injEq] at hx
      obtain ⟨-, -, -, rfl⟩ := hx
      rw [Option.bind_some, pure_eq, val?_ok, C16.fromTimestamp_id _ (by omega)]

theorem tryFromNDT_invalid_date (ty : Ty) (hd : hasDate ty = true) (dt : NDT) (hv : ¬ ValidYMD dt.year dt.month dt.day) :
    val? (tryFromNDT ty dt) = none := by
  have hts : val? (tryFromNDT .TS dt) = none := by
    simp only [tryFromNDT, val?_bind, validateYmd_val, if_neg hv, Option.bind_none]
  cases ty <;> simp [hasDate] at hd
  · exact (tryFromYmd_val _ _ _).trans (if_neg hv)
  · exact hts
  · rw [tryFromNDT_OD, val?_bind, hts]; rfl

theorem finish_val (ty : Ty) (hd : hasDate ty = true) (st : St) (dt : NDT) (rd : Nat) (p : Parts)
    (hdow : st.dow = p.dow.map Int.ofNat) :
    (val? (finish ty st dt rd)).map Prod.fst =
      if ValidYMD dt.year dt.month dt.day then
        if p.dow.all (fun (w : Nat) => weekday (dayNumber dt.year dt.month dt.day) + 1 = (w : Int)) = true then
          val? (tryFromNDT ty dt)
        else none
      else none := by
  have hpure : ∀ x : Chk Int, (val? (x >>= fun v => pure (v, rd))).map Prod.fst = val? x := fun x => by
    cases x <;> rfl
  unfold finish
  rw [hdow]
  cases p.dow with
  | none =>
    -- no weekday is written: the conversion itself rejects what is not a date
    rw [Option.map_none, hpure, Option.all_none, if_pos rfl]
    split
    · rfl
    · exact tryFromNDT_invalid_date ty hd dt ‹_›
  | some w =>
    rw [Option.map_some, val?_bind, tryFromYmd_val]
    split
    · rw [Option.bind_some, show Date.dayOfWeek _ = weekday _ + 1 from C01.dayOfWeek_eq _]
      simp only [Option.all_some, decide_eq_true_eq, Int.ofNat_eq_natCast, ne_eq]
      by_cases hw : weekday (dayNumber dt.year dt.month dt.day) + 1 = (w : Int)
      · rw [if_neg (not_not.2 hw), if_pos hw]; exact hpure _
      · rw [if_pos hw, if_neg hw]; rfl
    · rfl

/-- What `Spec.assemble` makes of the date once it has one: for a date its day number, for a timestamp and an
    Oracle-style date the microsecond count with the time of day. -/
def valueAt : Ty → Parts → Int × Int × Int → Option Int
  | .D, _, (y, m, d) => some (dayNumber y m d)
  | _, p, (y, m, d) => (timeOf p).bind fun t =>
    if 86400000000 * dayNumber y m d + (t : Int) ≤ maxTimestamp then some (86400000000 * dayNumber y m d + (t : Int))
    else none

theorem assemble_date (ty : Ty) (hd : hasDate ty = true) (now : Clock) (p : Parts) :
    assemble ty now p = (dateOf p now).bind (valueAt ty p) := by
  cases ty <;> simp [hasDate] at hd <;> cases h : dateOf p now <;> simp [assemble, valueAt, h]

theorem tryFromNDT_valueAt (ty : Ty) (hd : hasDate ty = true) (p : Parts) (hok : PartsOK ty p) (dt : NDT)
    (e1 : dt.hour = ((hourOf p : Nat) : Int)) (e2 : dt.minute = ((p.minute.getD 0 : Nat) : Int))
    (e3 : dt.sec = ((p.second.getD 0 : Nat) : Int)) (e4 : dt.usec = ((p.usec.getD 0 : Nat) : Int))
    (hv : ValidYMD dt.year dt.month dt.day) :
    val? (tryFromNDT ty dt) = valueAt ty p (dt.year, dt.month, dt.day) := by
  have hts := fun hty => tryFromNDT_TS ty hty dt _ _ _ _ e1 e2 e3 e4 fun h => by rw [hok.odUsec h]; rfl
  rw [if_pos hv] at hts
  cases ty <;> simp [hasDate] at hd
  · exact (tryFromYmd_val _ _ _).trans (if_pos hv)
  · show _ = (timeOf p).bind _
    rw [timeOf_bind]; exact hts (.inl rfl)
  · show _ = (timeOf p).bind _
    rw [timeOf_bind]; exact hts (.inr rfl)

theorem final_date (ty : Ty) (hd : hasDate ty = true) (now : Clock) (p : Parts) (s : Bytes) (r : Nat)
    (hok : PartsOK ty p) : (val? (tailOf ty (conc ty p s r) now)).map Prod.fst = assemble ty now p := by
  unfold tailOf
  rw [applyDefaults_conc ty hd p s r now, val?_bind, assemble_date ty hd, Option.map_bind]
  generalize (applyDefaults ty (conc ty p s r) now).2 = rd
  simp only [Function.comp_def, finish_val ty hd (conc ty p s r) _ rd p rfl]
  rw [resolveDoy_spec (conc ty p s r) _ p now rfl rfl rfl rfl (defaulted_day ty hd p s r now),
    show (defaulted ty p s r now).year = p.year.getD now.year from rfl]
  simp only [dateOf]
  -- the crate checks year, month and day together (`ValidYMD`, in `finish`), the specification the year first
  by_cases hY : 1 ≤ p.year.getD now.year ∧ p.year.getD now.year ≤ 9999
  · simp only [if_neg (not_not.2 hY)]
    cases monthDayOf p now (p.year.getD now.year) with
    | none => rfl
    | some md =>
      obtain ⟨m, d⟩ := md
      simp only [val?_ok, Option.bind_some]
      by_cases hisd : IsDate (p.year.getD now.year) m d
      · rw [if_pos ⟨hY.1, hY.2, hisd⟩, if_neg (not_not.2 hisd)]
        split
        · rw [Option.bind_some]
          exact tryFromNDT_valueAt ty hd p hok _ rfl rfl rfl rfl ⟨hY.1, hY.2, hisd⟩
        · rfl
      · rw [if_neg (fun h => hisd h.2.2), if_pos hisd]; rfl
  · simp only [if_pos hY, Option.bind_none]
    cases monthDayOf p now (p.year.getD now.year) with
    | none => rfl
    | some md => exact if_neg fun h => hY ⟨h.1, h.2.1⟩

theorem final_sound (ty : Ty) (now : Clock) (p : Parts) (s : Bytes) (r : Nat) (hok : PartsOK ty p) :
    (val? (tailOf ty (conc ty p s r) now)).map Prod.fst = assemble ty now p := by
  cases ty
  · exact final_date .D rfl now p s r hok
  · exact (tail_nodate .T now p s r rfl hok).trans (final_T now p s r)
  · exact final_date .TS rfl now p s r hok
  · exact (tail_nodate .YM now p s r rfl hok).trans (final_YM now p s r hok)
  · exact (tail_nodate .DT now p s r rfl hok).trans (final_DT now p s r)
  · exact final_date .OD rfl now p s r hok

end SqlDt.Lemmas
