/-
  Lemmas/FloatRound: the theory of `F64.roundPos` and `F64.round` (round-to-nearest-even of a rational `x = num/den`),
  over ℚ with `2 ^ e` a `zpow`, so that the sign of an exponent is split in one place only (`zpow_split`).
  `roundPos` is an exponent choice, a quotient rounding and a carry (`roundPos_eq`).  The exponent is the `e ≥ EMIN`
  whose binade `[2^52·2^e, 2^53·2^e)` holds `x` (`EMIN` for smaller `x`), and is determined by that (`rpE_bracket`,
  `rpE_eq`); the quotient is within one half (`rpQ_half`) and depends on the fraction only (`rpQ_congr`).  The rest
  follows from these; `Rounds` / `round_rounds` say all of it for `F64.round` in one statement.
-/
import Mathlib.Tactic.Ring
import Mathlib.Tactic.Linarith
import Mathlib.Tactic.Positivity
import SqlDt.Model.F64
namespace SqlDt

/-- One rounding's relative error bound, `u' = 2^-53 / (1 + 2^-53) = 1/(2^53+1)`. -/
def F64.u' : ℚ := 2 ^ (-53 : Int) / (1 + 2 ^ (-53 : Int))

namespace Lemmas

theorem pow2_eq (k : Nat) : F64.pow2 k = 2 ^ k := by
  unfold F64.pow2; rw [Nat.shiftLeft_eq, Nat.one_mul]

theorem P52_eq : F64.P52 = 2 ^ 52 := by decide
theorem P53_eq : F64.P53 = 2 ^ 53 := by decide

def rpE2 (num den : Nat) : Int :=
  let e1 : Int := (Int.ofNat num.log2 - Int.ofNat den.log2) - 52
  if num * F64.pow2 (-e1).toNat / (den * F64.pow2 e1.toNat) < F64.P52 then e1 - 1 else e1

def rpE (num den : Nat) : Int := if rpE2 num den < F64.EMIN then F64.EMIN else rpE2 num den

def rpQ (n d : Nat) : Nat :=
  if 2 * (n % d) > d ∨ (2 * (n % d) = d ∧ (n / d) % 2 = 1) then n / d + 1 else n / d

def rpFin (q' : Nat) (e : Int) : Option (Nat × Int) :=
  let (m, e') := if q' = F64.P53 then (F64.P52, e + 1) else (q', e)
  if e' > F64.EMAX then none else some (m, e')

theorem roundPos_eq (num den : Nat) :
    F64.roundPos num den =
      rpFin (rpQ (num * F64.pow2 (-(rpE num den)).toNat) (den * F64.pow2 (rpE num den).toNat)) (rpE num den) := by
  rfl

theorem rpFin_eq (Q : Nat) (E : Int) : rpFin Q E =
    if Q = 2 ^ 53 then (if E + 1 > F64.EMAX then none else some (2 ^ 52, E + 1))
    else (if E > F64.EMAX then none else some (Q, E)) := by
  unfold rpFin
  rw [P53_eq, P52_eq]
  by_cases hc : Q = 2 ^ 53 <;> simp only [hc, ↓reduceIte]

theorem rpFin_some {Q m : Nat} {E e : Int} (h : rpFin Q E = some (m, e)) :
    e ≤ F64.EMAX ∧ (Q ≠ 2 ^ 53 ∧ Q = m ∧ E = e ∨ Q = 2 ^ 53 ∧ m = 2 ^ 52 ∧ E + 1 = e) := by
  rw [rpFin_eq] at h
  split_ifs at h with hc hE hE <;> cases h
  · exact ⟨by omega, Or.inr ⟨hc, rfl, rfl⟩⟩
  · exact ⟨by omega, Or.inl ⟨hc, rfl, rfl⟩⟩

theorem rpFin_of_ne {Q : Nat} {E : Int} (hQ : Q ≠ 2 ^ 53) (hE : E ≤ F64.EMAX) : rpFin Q E = some (Q, E) := by
  rw [rpFin_eq, if_neg hQ, if_neg (by omega)]

/-- `F64.Canon (.fin s m e)` with the powers written out -/
def CanonME (m : Nat) (e : Int) : Prop :=
  m < 2 ^ 53 ∧ F64.EMIN ≤ e ∧ e ≤ F64.EMAX ∧ (2 ^ 52 ≤ m ∨ e = F64.EMIN)

theorem two_zpow_pos (e : Int) : (0 : ℚ) < 2 ^ e := zpow_pos (by norm_num) e

theorem zpow_split (e : Int) : (2 : ℚ) ^ e = (2 : ℚ) ^ e.toNat / (2 : ℚ) ^ (-e).toNat := by
  rcases le_total 0 e with h | h
  · have h0 : (-e).toNat = 0 := by omega
    rw [h0, pow_zero, div_one, ← zpow_natCast, Int.toNat_of_nonneg h]
  · have h0 : e.toNat = 0 := by omega
    rw [h0, pow_zero, one_div, ← zpow_natCast, Int.toNat_of_nonneg (by omega), ← zpow_neg, neg_neg]

/-- the pair `scaled e` inside `roundPos` is `x / 2^e` -/
theorem scaled_cast (num den : Nat) (e : Int) :
    ((num * 2 ^ (-e).toNat : Nat) : ℚ) / ((den * 2 ^ e.toNat : Nat) : ℚ) = (num : ℚ) / den / 2 ^ e := by
  rw [zpow_split e]; push_cast
  rw [mul_div_mul_comm, div_div_eq_mul_div, mul_div_assoc]

theorem two_pow_zpow (k : Nat) (e : Int) : (2 : ℚ) ^ k * 2 ^ e = 2 ^ ((k : Int) + e) := by
  rw [zpow_add₀ (by norm_num), zpow_natCast]

theorem two_zpow_lt_iff {a b : Int} : (2 : ℚ) ^ a < 2 ^ b ↔ a < b := zpow_lt_zpow_iff_right₀ (by norm_num)

theorem two_zpow_le {a b : Int} (h : a ≤ b) : (2 : ℚ) ^ a ≤ 2 ^ b := zpow_le_zpow_right₀ (by norm_num) h

theorem exp_lt_of_bracket {x : ℚ} {j k : Nat} {a b : Int} (h1 : (2 : ℚ) ^ j * 2 ^ a ≤ x) (h2 : x < 2 ^ k * 2 ^ b) :
    (j : Int) + a < k + b := by
  rw [two_pow_zpow] at h1 h2
  exact two_zpow_lt_iff.mp (lt_of_le_of_lt h1 h2)

theorem nat_le_of_mul_lt {a b : Nat} {X : ℚ} (hX : 0 < X) (h : (a : ℚ) * X < (b + 1) * X) : a ≤ b :=
  Nat.lt_succ_iff.mp (by exact_mod_cast lt_of_mul_lt_mul_right h hX.le)

/-- an integer is a multiple of the unit `2^e`, `e ≤ 0` -/
theorem grid_nat (q : Nat) {e : Int} (he : e ≤ 0) : ((q * 2 ^ (-e).toNat : Nat) : ℚ) * 2 ^ e = q := by
  rw [Nat.cast_mul, Nat.cast_pow, Nat.cast_ofNat, mul_assoc, ← zpow_natCast, ← zpow_add₀ (by norm_num),
    Int.toNat_of_nonneg (by omega), neg_add_cancel, zpow_zero, mul_one]

/-- rounding `x` to a multiple `m·2^e` of the unit does not pass a multiple `g = G·2^e` of it -/
theorem grid_le {G m : Nat} {e : Int} {g x : ℚ} (hg : (G : ℚ) * 2 ^ e = g) (h : g ≤ x)
    (hu : -(2 ^ e / 2) ≤ (m : ℚ) * 2 ^ e - x) : g ≤ (m : ℚ) * 2 ^ e := by
  have hX := two_zpow_pos e
  have := nat_le_of_mul_lt hX (a := G) (b := m) (by linarith only [hg, hu, h, hX])
  rw [← hg]
  exact mul_le_mul_of_nonneg_right (by exact_mod_cast this) hX.le

theorem mant_lt {m : Nat} (hm : m < 2 ^ 53) (e : Int) : ((m : ℚ) + 1) * 2 ^ e ≤ 2 ^ 53 * 2 ^ e :=
  mul_le_mul_of_nonneg_right (by exact_mod_cast hm) (two_zpow_pos e).le

theorem mant_ge {m : Nat} (hm : 2 ^ 52 ≤ m) (e : Int) : (2 : ℚ) ^ 52 * 2 ^ e ≤ m * 2 ^ e :=
  mul_le_mul_of_nonneg_right (by exact_mod_cast hm) (two_zpow_pos e).le

theorem rpE2_bracket (num den : Nat) (hn : 0 < num) (hd : 0 < den) :
    (2 : ℚ) ^ 52 * 2 ^ rpE2 num den ≤ (num : ℚ) / den ∧ (num : ℚ) / den < 2 ^ 53 * 2 ^ rpE2 num den := by
  have hD : (0 : ℚ) < den := by exact_mod_cast hd
  have ha1 : ((2 ^ num.log2 : Nat) : ℚ) ≤ num := by exact_mod_cast Nat.log2_self_le (by omega)
  have ha2 : (num : ℚ) < ((2 ^ (num.log2 + 1) : Nat) : ℚ) := by exact_mod_cast Nat.lt_log2_self
  have hb1 : ((2 ^ den.log2 : Nat) : ℚ) ≤ den := by exact_mod_cast Nat.log2_self_le (by omega)
  have hb2 : (den : ℚ) < ((2 ^ (den.log2 + 1) : Nat) : ℚ) := by exact_mod_cast Nat.lt_log2_self
  unfold rpE2
  simp only [Int.ofNat_eq_natCast, pow2_eq, P52_eq]
  generalize num.log2 = a at *
  generalize den.log2 = b at *
  generalize he1 : ((a : Int) - (b : Int) - 52) = e1
  push_cast at ha1 ha2 hb1 hb2
  have hX := two_zpow_pos e1
  -- 2^51·2^e1 < x < 2^53·2^e1
  have hlo : (2 : ℚ) ^ 51 * 2 ^ e1 * den < num := by
    calc (2 : ℚ) ^ 51 * 2 ^ e1 * den < 2 ^ 51 * 2 ^ e1 * 2 ^ (b + 1) := mul_lt_mul_of_pos_left hb2 (by positivity)
      _ = 2 ^ a := by
        rw [two_pow_zpow, ← zpow_natCast, ← zpow_natCast, ← zpow_add₀ (by norm_num)]; congr 1; push_cast; omega
      _ ≤ num := ha1
  have hup : (num : ℚ) < 2 ^ 53 * 2 ^ e1 * den := by
    calc (num : ℚ) < 2 ^ (a + 1) := ha2
      _ = 2 ^ 53 * 2 ^ e1 * 2 ^ b := by
        rw [two_pow_zpow, ← zpow_natCast, ← zpow_natCast, ← zpow_add₀ (by norm_num)]; congr 1; push_cast; omega
      _ ≤ 2 ^ 53 * 2 ^ e1 * den := mul_le_mul_of_nonneg_left hb1 (by positivity)
  rw [← lt_div_iff₀ hD] at hlo
  rw [← div_lt_iff₀ hD] at hup
  have hc : num * 2 ^ (-e1).toNat / (den * 2 ^ e1.toNat) < 2 ^ 52 ↔ (num : ℚ) / den < 2 ^ 52 * 2 ^ e1 := by
    have hd1 : 0 < den * 2 ^ e1.toNat := by positivity
    rw [Nat.div_lt_iff_lt_mul hd1, ← div_lt_iff₀ hX, ← scaled_cast, div_lt_iff₀ (by exact_mod_cast hd1)]
    norm_cast
  have h51 : (2 : ℚ) ^ 52 * 2 ^ (e1 - 1) = 2 ^ 51 * 2 ^ e1 := by
    rw [zpow_sub_one₀ (by norm_num)]; ring
  have h52 : (2 : ℚ) ^ 53 * 2 ^ (e1 - 1) = 2 ^ 52 * 2 ^ e1 := by
    rw [zpow_sub_one₀ (by norm_num)]; ring
  split
  · rename_i hlt
    rw [h51, h52]
    exact ⟨hlo.le, hc.mp hlt⟩
  · rename_i hge
    exact ⟨not_lt.mp (fun h => hge (hc.mpr h)), hup⟩

theorem rpE_bracket (num den : Nat) (hn : 0 < num) (hd : 0 < den) :
    F64.EMIN ≤ rpE num den ∧ ((2 : ℚ) ^ 52 * 2 ^ rpE num den ≤ (num : ℚ) / den ∨ rpE num den = F64.EMIN) ∧
      (num : ℚ) / den < 2 ^ 53 * 2 ^ rpE num den := by
  obtain ⟨hb1, hb2⟩ := rpE2_bracket num den hn hd
  unfold rpE
  split
  · rename_i h
    exact ⟨le_refl _, Or.inr rfl, lt_of_lt_of_le hb2
      (mul_le_mul_of_nonneg_left (zpow_le_zpow_right₀ (by norm_num) h.le) (by positivity))⟩
  · rename_i h
    exact ⟨not_lt.mp h, Or.inl hb1, hb2⟩

theorem rpE_eq {num den : Nat} {e : Int} (hn : 0 < num) (hd : 0 < den) (he : F64.EMIN ≤ e)
    (hlo : (2 : ℚ) ^ 52 * 2 ^ e ≤ (num : ℚ) / den ∨ e = F64.EMIN) (hup : (num : ℚ) / den < 2 ^ 53 * 2 ^ e) :
    rpE num den = e := by
  obtain ⟨h0, h1, h2⟩ := rpE_bracket num den hn hd
  rcases hlo with hlo | hlo <;> rcases h1 with h1 | h1
  · have := exp_lt_of_bracket hlo h2
    have := exp_lt_of_bracket h1 hup
    omega
  · have := exp_lt_of_bracket hlo h2
    omega
  · have := exp_lt_of_bracket h1 hup
    omega
  · omega

theorem rpQ_half (n d : Nat) (hd : 0 < d) : |(rpQ n d : ℚ) - (n : ℚ) / d| ≤ 1 / 2 := by
  have hD : (0 : ℚ) < d := by exact_mod_cast hd
  have h1 : (n : ℚ) = d * (n / d : Nat) + (n % d : Nat) := by exact_mod_cast (Nat.div_add_mod n d).symm
  have h2 : ((n % d : Nat) : ℚ) < d := by exact_mod_cast Nat.mod_lt n hd
  have e : (rpQ n d : ℚ) - n / d = ((rpQ n d : ℚ) * d - n) / d := by
    rw [sub_div, mul_div_cancel_right₀ _ hD.ne']
  rw [e, abs_div, abs_of_pos hD, div_le_iff₀ hD, abs_le, h1]
  unfold rpQ
  split
  · rename_i h
    have : (d : ℚ) ≤ 2 * (n % d : Nat) := by exact_mod_cast (by omega : d ≤ 2 * (n % d))
    push_cast
    constructor <;> linarith
  · rename_i h
    have : 2 * ((n % d : Nat) : ℚ) ≤ d := by exact_mod_cast (by omega : 2 * (n % d) ≤ d)
    constructor <;> linarith

theorem rpQ_scaled (num den : Nat) (e : Int) (hd : 0 < den) :
    |(rpQ (num * 2 ^ (-e).toNat) (den * 2 ^ e.toNat) : ℚ) * 2 ^ e - (num : ℚ) / den| ≤ 2 ^ e / 2 := by
  have hX := two_zpow_pos e
  have h := rpQ_half (num * 2 ^ (-e).toNat) (den * 2 ^ e.toNat) (by positivity)
  rw [scaled_cast] at h
  have key : ∀ Q : ℚ, Q * 2 ^ e - (num : ℚ) / den = (Q - (num : ℚ) / den / 2 ^ e) * 2 ^ e := by
    intro Q; rw [sub_mul, div_mul_cancel₀ _ hX.ne']
  rw [key, abs_mul, abs_of_pos hX]
  linarith only [mul_le_mul_of_nonneg_right h hX.le]

theorem rpQ_scale (k n d : Nat) (hk : 0 < k) : rpQ (k * n) (k * d) = rpQ n d := by
  unfold rpQ
  rw [Nat.mul_div_mul_left _ _ hk, Nat.mul_mod_mul_left, Nat.mul_left_comm 2 k]
  simp only [gt_iff_lt, Nat.mul_lt_mul_left hk, Nat.mul_right_inj hk.ne']

theorem rpQ_congr {n d n' d' : Nat} (hd : 0 < d) (hd' : 0 < d') (hr : n * d' = n' * d) :
    rpQ n d = rpQ n' d' := by
  rw [← rpQ_scale d' n d hd', ← rpQ_scale d n' d' hd, Nat.mul_comm d' n, hr, Nat.mul_comm n' d, Nat.mul_comm d' d]

/-- The third part is what the relative error needs: above the minimum exponent, `x` lies in the binade of the result
    or (carry) the error is a quarter of a unit. -/
theorem roundPos_spec {num den m : Nat} {e : Int} (hn : 0 < num) (hd : 0 < den)
    (h : F64.roundPos num den = some (m, e)) :
    CanonME m e ∧ |(m : ℚ) * 2 ^ e - (num : ℚ) / den| ≤ 2 ^ e / 2 ∧
    (F64.EMIN < e → (2 : ℚ) ^ 52 * 2 ^ e ≤ (num : ℚ) / den ∨ |(m : ℚ) * 2 ^ e - (num : ℚ) / den| ≤ 2 ^ e / 4) := by
  rw [roundPos_eq] at h
  obtain ⟨hE1, hlo, hup⟩ := rpE_bracket num den hn hd
  simp only [pow2_eq] at h
  have hQ := rpQ_scaled num den (rpE num den) hd
  generalize rpQ _ _ = Q at h hQ
  generalize rpE num den = E at *
  generalize (num : ℚ) / den = x at *
  have hX := two_zpow_pos E
  have hQ' := abs_le.mp hQ
  have hQ53 : Q ≤ 2 ^ 53 := nat_le_of_mul_lt hX (by push_cast; linarith only [hQ'.2, hup, hX])
  obtain ⟨hmax, ⟨hc, rfl, rfl⟩ | ⟨hc, rfl, rfl⟩⟩ := rpFin_some h
  · exact ⟨⟨by omega, hE1, hmax,
        hlo.imp_left fun h52 => nat_le_of_mul_lt hX (by push_cast; linarith only [hQ'.1, h52, hX])⟩,
      hQ, fun he => Or.inl (hlo.resolve_right (by omega))⟩
  · -- carry: the result is `2^52·2^(E+1) = Q·2^E`, and half a unit of `E` is a quarter of a unit of `E+1`
    have hv : ((2 ^ 52 : Nat) : ℚ) * 2 ^ (E + 1) = ((2 ^ 53 : Nat) : ℚ) * 2 ^ E := by
      rw [zpow_add_one₀ (by norm_num)]; push_cast; ring
    rw [hv, ← hc, zpow_add_one₀ (by norm_num)]
    exact ⟨⟨by decide, by omega, hmax, Or.inl (Nat.le_refl _)⟩, by linarith only [hQ, hX],
      fun _ => Or.inr (by linarith only [hQ])⟩

theorem roundPos_of_near {num den m0 : Nat} {e0 : Int} (hn : 0 < num) (hd : 0 < den) (hc : CanonME m0 e0)
    (hlo : (2 : ℚ) ^ 52 * 2 ^ e0 ≤ (num : ℚ) / den ∨ e0 = F64.EMIN)
    (h : |(m0 : ℚ) * 2 ^ e0 - (num : ℚ) / den| < 2 ^ e0 / 2) :
    F64.roundPos num den = some (m0, e0) := by
  obtain ⟨c1, c2, c3, _⟩ := hc
  have hX := two_zpow_pos e0
  rw [abs_lt] at h
  have hup : (num : ℚ) / den < 2 ^ 53 * 2 ^ e0 := by linarith only [mant_lt c1 e0, h.1, hX]
  rw [roundPos_eq, rpE_eq hn hd c2 hlo hup]
  simp only [pow2_eq]
  have hQ := abs_le.mp (rpQ_scaled num den e0 hd)
  generalize rpQ _ _ = Q at hQ ⊢
  have hQm : Q = m0 := Nat.le_antisymm (nat_le_of_mul_lt hX (by linarith only [hQ.2, h.1]))
    (nat_le_of_mul_lt hX (by linarith only [hQ.1, h.2]))
  rw [hQm, rpFin_of_ne (by omega) c3]

/-- `2^1023` is a `zpow`: as a numeral the power would exceed `exponentiation.threshold`. -/
theorem roundPos_isSome {num den : Nat} (hn : 0 < num) (hd : 0 < den) (hv : (num : ℚ) / den < 2 ^ (1023 : Int)) :
    ∃ m e, F64.roundPos num den = some (m, e) := by
  obtain ⟨_, hlo, _⟩ := rpE_bracket num den hn hd
  have hE : rpE num den < F64.EMAX := by
    have hmin : F64.EMIN = -1074 := rfl
    have hmax : F64.EMAX = 971 := rfl
    rcases hlo with hlo | hlo
    · rw [two_pow_zpow] at hlo
      have := two_zpow_lt_iff.mp (lt_of_le_of_lt hlo hv)
      omega
    · omega
  rw [roundPos_eq, rpFin_eq]
  split_ifs with h1 h2 h2
  exacts [absurd h2 (by omega), ⟨_, _, rfl⟩, absurd h2 (by omega), ⟨_, _, rfl⟩]

theorem roundPos_exp_ge (num den m : Nat) (e : Int) (hn : 0 < num) (hd : 0 < den)
    (h : F64.roundPos num den = some (m, e)) (j : Int) (hx : (2 : ℚ) ^ j ≤ (num : ℚ) / den) : j - 52 ≤ e := by
  obtain ⟨⟨hm, _, _, _⟩, hu, _⟩ := roundPos_spec hn hd h
  rw [abs_le] at hu
  have hlt : (2 : ℚ) ^ j < 2 ^ ((53 : Nat) + e) := by
    rw [← two_pow_zpow]; linarith only [hu.1, hx, mant_lt hm e, two_zpow_pos e]
  have := two_zpow_lt_iff.mp hlt
  omega

theorem roundPos_exp_le {num den m : Nat} {e : Int} (hn : 0 < num) (hd : 0 < den)
    (h : F64.roundPos num den = some (m, e)) (j : Int) (hj : F64.EMIN + 52 ≤ j)
    (hx : (num : ℚ) / den < 2 ^ j) : e ≤ j - 52 := by
  obtain ⟨⟨_, _, _, hc⟩, hu, _⟩ := roundPos_spec hn hd h
  by_contra hgt
  rw [abs_le] at hu
  have hlt : (2 : ℚ) ^ ((51 : Nat) + e) < 2 ^ j := by
    rw [← two_pow_zpow]; linarith only [hu.2, hx, mant_ge (hc.resolve_right (by omega)) e, two_zpow_pos e]
  have := two_zpow_lt_iff.mp hlt
  omega

theorem u'_eq : F64.u' = 1 / 9007199254740993 := by unfold F64.u'; norm_num

theorem le_u'_mul {a x : ℚ} : a ≤ F64.u' * x ↔ 9007199254740993 * a ≤ x := by
  rw [u'_eq, one_div, inv_mul_eq_div, le_div_iff₀ (by norm_num), mul_comm]

/-- Below `2^-1022` the bound fails: `(2^53 − 1)/2^1075` rounds to `2^-1022`, relative error `1/(2^53 − 1) > u'`. -/
theorem roundPos_rel {num den m : Nat} {e : Int} (hn : 0 < num) (hd : 0 < den)
    (h : F64.roundPos num den = some (m, e))
    (hnorm : F64.EMIN < e ∨ (2 : ℚ) ^ (-1022 : Int) ≤ (num : ℚ) / den) :
    |(m : ℚ) * 2 ^ e - (num : ℚ) / den| ≤ F64.u' * ((num : ℚ) / den) := by
  rw [le_u'_mul]
  obtain ⟨⟨_, hE, _, hc⟩, hu, hf⟩ := roundPos_spec hn hd h
  have hX := two_zpow_pos e
  have hu' := abs_le.mp hu
  have hf' : (2 : ℚ) ^ 52 * 2 ^ e ≤ (num : ℚ) / den ∨
      (F64.EMIN < e ∧ |(m : ℚ) * 2 ^ e - (num : ℚ) / den| ≤ 2 ^ e / 4) := by
    rcases lt_or_eq_of_le hE with he | he
    · exact (hf he).imp_right fun h => ⟨he, h⟩
    · have := hnorm.resolve_left (by omega)
      left; rwa [two_pow_zpow, ← he]
  have hm : 2 ^ 52 ≤ m := hf'.elim
    (fun h52 => nat_le_of_mul_lt hX (by push_cast; linarith only [hu'.1, h52, hX]))
    (fun h => hc.resolve_right (by omega))
  have hmX := mant_ge hm e
  generalize (num : ℚ) / den = x at *
  rcases hf' with hf | hf
  · rcases le_or_gt ((m : ℚ) * 2 ^ e) x with hle | hgt
    · rw [abs_of_nonpos (by linarith only [hle])] at hu ⊢
      linarith only [hu, hmX]
    · have hm1 : 2 ^ 52 + 1 ≤ m := nat_le_of_mul_lt hX (by push_cast; linarith only [hf, hgt])
      have := mul_le_mul_of_nonneg_right (by exact_mod_cast hm1 : (2 : ℚ) ^ 52 + 1 ≤ m) hX.le
      rw [abs_of_pos (by linarith only [hgt])] at hu ⊢
      linarith only [this, hu]
  · have := abs_le.mp hf.2
    linarith only [hf.2, this.2, hmX, hX]

/-- With `2^e = P/Q`, the rational `|m·2^e − num/den|·(Q·den)` is the integer `|m·P·den − num·Q|` of the
    cross-multiplied statements: a bound `b` on the former, cleared of denominators, bounds the latter. -/
theorem err_nat {m num den c B : Nat} {e : Int} {b : ℚ} (hd : 0 < den)
    (h : (c : ℚ) * |(m : ℚ) * 2 ^ e - (num : ℚ) / den| ≤ b) (hB : b * ((2 : ℚ) ^ (-e).toNat * den) = B) :
    c * (((m * 2 ^ e.toNat * den : Nat) : Int) - ((num * 2 ^ (-e).toNat : Nat) : Int)).natAbs ≤ B := by
  have hQ : (0 : ℚ) < (2 : ℚ) ^ (-e).toNat := by positivity
  have hD : (0 : ℚ) < den := by exact_mod_cast hd
  have key : (((((m * 2 ^ e.toNat * den : Nat) : Int) - ((num * 2 ^ (-e).toNat : Nat) : Int)).natAbs : Nat) : ℚ) =
      |(m : ℚ) * 2 ^ e - (num : ℚ) / den| * ((2 : ℚ) ^ (-e).toNat * den) := by
    rw [Nat.cast_natAbs, Int.cast_abs, ← abs_of_pos (mul_pos hQ hD), ← abs_mul, zpow_split]
    congr 1
    push_cast
    rw [sub_mul]
    congr 1
    · calc _ = (m : ℚ) * 2 ^ e.toNat * den * (2 ^ (-e).toNat / 2 ^ (-e).toNat) := by rw [div_self hQ.ne', mul_one]
        _ = _ := by ring
    · calc _ = (num : ℚ) * 2 ^ (-e).toNat * (den / den) := by rw [div_self hD.ne', mul_one]
        _ = _ := by ring
  have := mul_le_mul_of_nonneg_right h (mul_pos hQ hD).le
  rw [hB, mul_assoc, ← key] at this
  exact_mod_cast this

/-- For a positive rational `num/den`, the rounded `(m, e)` is canonical and
    `|m·2^e − num/den| ≤ 2^e / 2`, stated without division:
    with `P := 2^(max e 0)`, `Q := 2^(max (−e) 0)`: `2 · |m·P·den − num·Q| ≤ P·den`. -/
theorem F64.roundPos_spec (num den m : Nat) (e : Int) (hn : 0 < num) (hd : 0 < den)
    (h : F64.roundPos num den = some (m, e)) :
    m < F64.P53 ∧ F64.EMIN ≤ e ∧ e ≤ F64.EMAX ∧ (F64.P52 ≤ m ∨ e = F64.EMIN) ∧
    2 * ((m * F64.pow2 e.toNat * den : Nat) - (num * F64.pow2 (-e).toNat : Nat) : Int).natAbs
      ≤ F64.pow2 e.toNat * den := by
  obtain ⟨⟨h1, h2, h3, h4⟩, hu, _⟩ := Lemmas.roundPos_spec hn hd h
  simp only [pow2_eq, P52_eq, P53_eq]
  refine ⟨h1, h2, h3, h4, err_nat hd (b := 2 ^ e) (by linarith only [hu]) ?_⟩
  rw [← mul_assoc, zpow_split e, div_mul_cancel₀ _ (by positivity)]
  push_cast; rfl

/-- The relative error of one rounding with a result exponent above the minimum, `|computed − exact| ≤ u'·exact`,
    stated without division: `(2^53 + 1) · |m·P·den − num·Q| ≤ num·Q` with `P`, `Q` as above. -/
theorem F64.roundPos_rel (num den m : Nat) (e : Int) (hn : 0 < num) (hd : 0 < den)
    (h : F64.roundPos num den = some (m, e)) (he : F64.EMIN < e) :
    9007199254740993 * ((m * F64.pow2 e.toNat * den : Nat) - (num * F64.pow2 (-e).toNat : Nat) : Int).natAbs
      ≤ num * F64.pow2 (-e).toNat := by
  simp only [pow2_eq]
  refine err_nat hd (le_u'_mul.mp (Lemmas.roundPos_rel hn hd h (Or.inl he))) ?_
  rw [mul_comm ((2 : ℚ) ^ _), ← mul_assoc, div_mul_cancel₀ _ (by exact_mod_cast hd.ne')]
  push_cast; rfl

theorem roundPos_congr {num den num' den' : Nat} (hn : 0 < num) (hd : 0 < den) (hn' : 0 < num') (hd' : 0 < den')
    (hq : (num : ℚ) / den = (num' : ℚ) / den') (hr : num * den' = num' * den) :
    F64.roundPos num den = F64.roundPos num' den' := by
  obtain ⟨h0, hlo, hup⟩ := rpE_bracket num' den' hn' hd'
  rw [← hq] at hlo hup
  rw [roundPos_eq, roundPos_eq, rpE_eq hn hd h0 hlo hup]
  congr 1
  simp only [pow2_eq]
  apply rpQ_congr (by positivity) (by positivity)
  calc _ = num * den' * (2 ^ (-rpE num' den').toNat * 2 ^ (rpE num' den').toNat) := by ring
    _ = _ := by rw [hr]; ring

theorem round_congr (s : Bool) {num den num' den' : Nat} (hd : 0 < den) (hd' : 0 < den')
    (hq : (num : ℚ) / den = (num' : ℚ) / den') : F64.round s num den = F64.round s num' den' := by
  have hr : num * den' = num' * den := by
    rw [div_eq_div_iff (by exact_mod_cast hd.ne') (by exact_mod_cast hd'.ne')] at hq
    exact_mod_cast hq
  have hz : num = 0 ↔ num' = 0 := by
    constructor <;> intro h <;> subst h <;> simp only [Nat.zero_mul] at hr
    · exact (Nat.mul_eq_zero.mp hr.symm).resolve_right hd.ne'
    · exact (Nat.mul_eq_zero.mp hr).resolve_right hd'.ne'
  unfold F64.round
  by_cases h0 : num = 0
  · rw [if_pos h0, if_pos (hz.mp h0)]
  · rw [if_neg h0, if_neg (mt hz.mpr h0),
      roundPos_congr (Nat.pos_of_ne_zero h0) hd (Nat.pos_of_ne_zero (mt hz.mpr h0)) hd' hq hr]

/-- `y` is a correctly rounded image (sign bit `s`) of the non-negative rational `x`: `±∞` only for `x ≥ 2^1023`;
    otherwise a canonical finite `±m·2^e` within half a unit in the last place of `x`, within relative error `u'`
    when `x ≥ 2^-1022`, and with `e ≤ j − 52` when `x < 2^j`. -/
def Rounds (y : F64) (s : Bool) (x : ℚ) : Prop :=
  (y = .inf s ∧ (2 : ℚ) ^ (1023 : Int) ≤ x) ∨
  ∃ (m : Nat) (e : Int), y = .fin s m e ∧ CanonME m e ∧ |(m : ℚ) * 2 ^ e - x| ≤ 2 ^ e / 2 ∧
    ((2 : ℚ) ^ (-1022 : Int) ≤ x → |(m : ℚ) * 2 ^ e - x| ≤ F64.u' * x) ∧
    ∀ j : Int, F64.EMIN + 52 ≤ j → x < 2 ^ j → e ≤ j - 52

theorem round_rounds (s : Bool) (num den : Nat) (hd : 0 < den) :
    Rounds (F64.round s num den) s ((num : ℚ) / den) := by
  unfold F64.round
  by_cases h0 : num = 0
  · subst h0
    rw [if_pos rfl, Nat.cast_zero, zero_div]
    refine Or.inr ⟨0, F64.EMIN, rfl, ⟨by decide, le_refl _, by decide, Or.inr rfl⟩, ?_, fun h => ?_, fun j hj _ => by omega⟩
    · rw [Nat.cast_zero, zero_mul, sub_zero, abs_zero]; exact (half_pos (two_zpow_pos _)).le
    · exact absurd h (not_le.mpr (two_zpow_pos _))
  · rw [if_neg h0]
    have hn : 0 < num := by omega
    cases hr : F64.roundPos num den with
    | none =>
      refine Or.inl ⟨rfl, not_lt.mp fun hlt => ?_⟩
      obtain ⟨m, e, h⟩ := roundPos_isSome hn hd hlt
      rw [h] at hr; cases hr
    | some p =>
      obtain ⟨m, e⟩ := p
      exact Or.inr ⟨m, e, rfl, (roundPos_spec hn hd hr).1, (roundPos_spec hn hd hr).2.1,
        fun hx => roundPos_rel hn hd hr (Or.inr hx), roundPos_exp_le hn hd hr⟩

theorem Rounds.fin_of_lt {y : F64} {s : Bool} {x : ℚ} {j : Int} (h : Rounds y s x) (hj : F64.EMIN + 52 ≤ j)
    (hj' : j ≤ 1023) (hv : x < 2 ^ j) :
    ∃ (m : Nat) (e : Int), y = .fin s m e ∧ e ≤ j - 52 ∧ |(m : ℚ) * 2 ^ e - x| ≤ 2 ^ e / 2 := by
  rcases h with ⟨_, hbig⟩ | ⟨m, e, hy, _, hu, _, hexp⟩
  · exact absurd (lt_of_le_of_lt hbig (lt_of_lt_of_le hv (two_zpow_le hj'))) (lt_irrefl _)
  · exact ⟨m, e, hy, hexp j hj hv, hu⟩

theorem half_unit_le {e j : Int} (he : e ≤ j - 52) : (2 : ℚ) ^ e / 2 ≤ 2 ^ (j - 53) := by
  rw [show j - 53 = j - 52 - 1 by omega, zpow_sub_one₀ (by norm_num), ← div_eq_mul_inv]
  exact div_le_div_of_nonneg_right (two_zpow_le he) (by norm_num)

theorem fin_lt_of_exp {m : Nat} {e j : Int} (hm : m < 2 ^ 53) (he : e ≤ j - 52) : (m : ℚ) * 2 ^ e < 2 ^ (j + 1) := by
  have h1 := mant_lt hm e
  rw [two_pow_zpow] at h1
  have := two_zpow_le (show ((53 : Nat) : Int) + e ≤ j + 1 by omega)
  linarith only [h1, this, two_zpow_pos e]

end Lemmas
end SqlDt
