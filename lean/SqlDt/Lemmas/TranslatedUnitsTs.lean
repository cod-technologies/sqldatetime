/-
  Lemmas/TranslatedUnitsTs (hand-written, stable): `Tr.f = model f` for the calendar units of
  `Timestamp` (`impl Trunc / Round for Timestamp`) and the Oracle wrappers (`impl Trunc / Round for oracle::Date`),
  except the ISO-year unit.  Same namespace (`SqlDt.TrEq`) and attribute (`tr_eq`) as Lemmas/TranslatedEq.

  Hypotheses: the receiver is an `i64` (`-9223372036854775808 ≤ ts ≤ 9223372036854775807`) where the `Date` unit has no
  hypothesis of its own; `-210866803200000000 ≤ ts` (the date of `ts` has a non-negative Julian day, the range of
  `Date.extract_eq`, as in `Timestamp.add_interval_ym_eq`) where the `Date` unit calls `Date::extract`;
  `isValidTimestamp ts` for `round_week` only (as `Date.round_week_eq`: a valid date is not before the first day of its year).
-/
import SqlDt.Lemmas.TranslatedUnits
namespace SqlDt.TrEq
open SqlDt SqlDt.Gen SqlDt.TrTactic SqlDt.TrEq.TsU

/-! ## `Trunc for Timestamp` (`trunc_day`, `trunc_hour`, `trunc_minute` are in Lemmas/TranslatedEq) -/

@[tr_eq] theorem Timestamp.trunc_century_eq (ts : Int) (h0 : -210866803200000000 ≤ ts) (h1 : ts ≤ 9223372036854775807) :
    Tr.Timestamp.trunc_century ts = Timestamp.trunc .century ts := by
  unfold Tr.Timestamp.trunc_century
  have hd := ts_date_range ts h0 h1
  tr_unit_eq tr_unit_ts

@[tr_eq] theorem Timestamp.trunc_year_eq (ts : Int) (h0 : -210866803200000000 ≤ ts) (h1 : ts ≤ 9223372036854775807) :
    Tr.Timestamp.trunc_year ts = Timestamp.trunc .year ts := by
  unfold Tr.Timestamp.trunc_year
  have hd := ts_date_range ts h0 h1
  tr_unit_eq tr_unit_ts

@[tr_eq] theorem Timestamp.trunc_quarter_eq (ts : Int) (h0 : -210866803200000000 ≤ ts) (h1 : ts ≤ 9223372036854775807) :
    Tr.Timestamp.trunc_quarter ts = Timestamp.trunc .quarter ts := by
  unfold Tr.Timestamp.trunc_quarter
  have hd := ts_date_range ts h0 h1
  tr_unit_eq tr_unit_ts

@[tr_eq] theorem Timestamp.trunc_month_eq (ts : Int) (h0 : -210866803200000000 ≤ ts) (h1 : ts ≤ 9223372036854775807) :
    Tr.Timestamp.trunc_month ts = Timestamp.trunc .month ts := by
  unfold Tr.Timestamp.trunc_month
  have hd := ts_date_range ts h0 h1
  tr_unit_eq tr_unit_ts

@[tr_eq] theorem Timestamp.trunc_week_eq (ts : Int) (h0 : -210866803200000000 ≤ ts) (h1 : ts ≤ 9223372036854775807) :
    Tr.Timestamp.trunc_week ts = Timestamp.trunc .week ts := by
  unfold Tr.Timestamp.trunc_week
  have hd := ts_date_range ts h0 h1
  tr_unit_eq tr_unit_ts

@[tr_eq] theorem Timestamp.trunc_iso_week_eq (ts : Int) (h0 : -9223372036854775808 ≤ ts) (h1 : ts ≤ 9223372036854775807) :
    Tr.Timestamp.trunc_iso_week ts = Timestamp.trunc .isoWeek ts := by
  unfold Tr.Timestamp.trunc_iso_week
  tr_unit_eq tr_unit_ts

@[tr_eq] theorem Timestamp.trunc_month_start_week_eq (ts : Int) (h0 : -210866803200000000 ≤ ts) (h1 : ts ≤ 9223372036854775807) :
    Tr.Timestamp.trunc_month_start_week ts = Timestamp.trunc .monthStartWeek ts := by
  unfold Tr.Timestamp.trunc_month_start_week
  have hd := ts_date_range ts h0 h1
  tr_unit_eq tr_unit_ts

@[tr_eq] theorem Timestamp.trunc_sunday_start_week_eq (ts : Int) (h0 : -210866803200000000 ≤ ts) (h1 : ts ≤ 9223372036854775807) :
    Tr.Timestamp.trunc_sunday_start_week ts = Timestamp.trunc .sundayStartWeek ts := by
  unfold Tr.Timestamp.trunc_sunday_start_week
  have hd := ts_date_range ts h0 h1
  tr_unit_eq tr_unit_ts

/-! ### the half-day shift of `round_day` and of the four week roundings (`Timestamp.shiftHalfDay` in the model) -/

set_option hygiene false in
/-- Independent of how the source spells the shift (inline `if … { date = date.add_days(1)? }`, or a helper returning
    `Result<Date>` whose result is matched): both sides are brought to the closed forms `ts / 86400000000` (date) and
    `ts % 86400000000` (time of day); then the case analysis is done on the MODEL's terms – the half-day test, then the
    result of `Date.addDays (ts / 86400000000) 1` – and each case is closed by rewriting: the shifted date `r1` is valid,
    which gives the side conditions of the callees that are applied to it. -/
macro "tr_ts_shift" ts:ident : tactic => `(tactic| (
  try dsimp only
  try simp (disch := omega) only [tr_eq]
  simp only [Timestamp.round, Timestamp.shiftHalfDay, Timestamp.hour, Time.hour, Date.round, bind, Except.bind, pure,
    Except.pure]
  try simp (disch := omega) only [SqlDt.Timestamp.extract_eq, SqlDt.Timestamp.date_eq, SqlDt.Timestamp.time_eq, hour_cast,
    tr_eq, asI32_eq]
  first
  | done
  | (by_cases hc : rdiv ($ts % 86400000000) USECONDS_PER_HOUR ≥ 12
     · simp only [hc, ↓reduceIte]
       first
       | done
       | (cases hadd : Date.addDays ($ts / 86400000000) 1 with
          | error e => first | done | rfl | (simp only [hadd]; done) | (dsimp only; done)
          | ok r1 =>
            try simp only [hadd]
            first
            | done
            | (try dsimp only
               have hv1 := addDays_ok_valid _ _ _ hadd
               have hr1 := valid_date_range' _ hv1
               have hf1 := first_of_year_le _ hv1
               have hdd1 := extract_day_range _ hr1.1
               try simp (disch := omega) only [tr_eq, asI32_eq]
               first | done | rfl | (tr_ts_both; done) | tr_auto))
     · simp only [hc, ↓reduceIte]
       first | done | rfl | (tr_ts_both; done) | tr_auto)))

@[tr_eq] theorem Timestamp.round_day_eq (ts : Int) (h0 : -9223372036854775808 ≤ ts) (h1 : ts ≤ 9223372036854775807) :
    Tr.Timestamp.round_day ts = Timestamp.round .day ts := by
  unfold Tr.Timestamp.round_day
  -- For an UNTRANSLATED alias of the model's unit the goal is `x = x`: the `try dsimp only` of `tr_ts_shift` closes it
  -- and the `simp only` after it finds no goal.  Hence the first alternative, here and in the four week roundings.
  first
  | (with_reducible_and_instances rfl)
  | (tr_ts_shift ts)

@[tr_eq] theorem Timestamp.round_hour_eq (ts : Int) (h0 : -9223372036854775808 ≤ ts) (h1 : ts ≤ 9223372036854775807) :
    Tr.Timestamp.round_hour ts = Timestamp.round .hour ts := by
  unfold Tr.Timestamp.round_hour
  have ht := ts_time_range ts
  tr_unit_eq tr_unit_ts

@[tr_eq] theorem Timestamp.round_minute_eq (ts : Int) (h0 : -9223372036854775808 ≤ ts) (h1 : ts ≤ 9223372036854775807) :
    Tr.Timestamp.round_minute ts = Timestamp.round .minute ts := by
  unfold Tr.Timestamp.round_minute
  have ht := ts_time_range ts
  tr_unit_eq tr_unit_ts

@[tr_eq] theorem Timestamp.round_century_eq (ts : Int) (h0 : -210866803200000000 ≤ ts) (h1 : ts ≤ 9223372036854775807) :
    Tr.Timestamp.round_century ts = Timestamp.round .century ts := by
  unfold Tr.Timestamp.round_century
  have hd := ts_date_range ts h0 h1
  tr_unit_eq tr_unit_ts

@[tr_eq] theorem Timestamp.round_year_eq (ts : Int) (h0 : -210866803200000000 ≤ ts) (h1 : ts ≤ 9223372036854775807) :
    Tr.Timestamp.round_year ts = Timestamp.round .year ts := by
  unfold Tr.Timestamp.round_year
  have hd := ts_date_range ts h0 h1
  tr_unit_eq tr_unit_ts

@[tr_eq] theorem Timestamp.round_quarter_eq (ts : Int) (h0 : -210866803200000000 ≤ ts) (h1 : ts ≤ 9223372036854775807) :
    Tr.Timestamp.round_quarter ts = Timestamp.round .quarter ts := by
  unfold Tr.Timestamp.round_quarter
  have hd := ts_date_range ts h0 h1
  tr_unit_eq tr_unit_ts

@[tr_eq] theorem Timestamp.round_month_eq (ts : Int) (h0 : -210866803200000000 ≤ ts) (h1 : ts ≤ 9223372036854775807) :
    Tr.Timestamp.round_month ts = Timestamp.round .month ts := by
  unfold Tr.Timestamp.round_month
  have hd := ts_date_range ts h0 h1
  tr_unit_eq tr_unit_ts

/-! ## `Round for Timestamp`: the four week roundings (half-day shift first: `Timestamp.shiftHalfDay`) -/

@[tr_eq] theorem Timestamp.round_week_eq (ts : Int) (hts : isValidTimestamp ts) :
    Tr.Timestamp.round_week ts = Timestamp.round .week ts := by
  unfold Tr.Timestamp.round_week
  first
  | (with_reducible_and_instances rfl)
  | (have hb := (isValidTimestamp_iff ts).1 hts
     have hv := SqlDt.TrSafe.valid_ts_date ts hts
     have hf := first_of_year_le _ hv
     tr_ts_shift ts)

@[tr_eq] theorem Timestamp.round_iso_week_eq (ts : Int) (h0 : -9223372036854775808 ≤ ts) (h1 : ts ≤ 9223372036854775807) :
    Tr.Timestamp.round_iso_week ts = Timestamp.round .isoWeek ts := by
  unfold Tr.Timestamp.round_iso_week
  first
  | (with_reducible_and_instances rfl)
  | (tr_ts_shift ts)

@[tr_eq] theorem Timestamp.round_month_start_week_eq (ts : Int) (h0 : -210866803200000000 ≤ ts) (h1 : ts ≤ 9223372036854775807) :
    Tr.Timestamp.round_month_start_week ts = Timestamp.round .monthStartWeek ts := by
  unfold Tr.Timestamp.round_month_start_week
  first
  | (with_reducible_and_instances rfl)
  | (have hdd := extract_day_range (ts / 86400000000) (by omega)
     tr_ts_shift ts)

@[tr_eq] theorem Timestamp.round_sunday_start_week_eq (ts : Int) (h0 : -9223372036854775808 ≤ ts) (h1 : ts ≤ 9223372036854775807) :
    Tr.Timestamp.round_sunday_start_week ts = Timestamp.round .sundayStartWeek ts := by
  unfold Tr.Timestamp.round_sunday_start_week
  first
  | (with_reducible_and_instances rfl)
  | (tr_ts_shift ts)

/-! ## `Trunc / Round for oracle::Date`: the `Timestamp` unit followed by `.into()` (flooring to the second) -/

@[tr_eq] theorem OracleDate.trunc_century_eq (od : Int) (h0 : -210866803200000000 ≤ od) (h1 : od ≤ 9223372036854775807) :
    Tr.OracleDate.trunc_century od = OracleDate.trunc .century od := by
  unfold Tr.OracleDate.trunc_century
  tr_unit_eq tr_unit_ts

@[tr_eq] theorem OracleDate.trunc_year_eq (od : Int) (h0 : -210866803200000000 ≤ od) (h1 : od ≤ 9223372036854775807) :
    Tr.OracleDate.trunc_year od = OracleDate.trunc .year od := by
  unfold Tr.OracleDate.trunc_year
  tr_unit_eq tr_unit_ts

@[tr_eq] theorem OracleDate.trunc_quarter_eq (od : Int) (h0 : -210866803200000000 ≤ od) (h1 : od ≤ 9223372036854775807) :
    Tr.OracleDate.trunc_quarter od = OracleDate.trunc .quarter od := by
  unfold Tr.OracleDate.trunc_quarter
  tr_unit_eq tr_unit_ts

@[tr_eq] theorem OracleDate.trunc_month_eq (od : Int) (h0 : -210866803200000000 ≤ od) (h1 : od ≤ 9223372036854775807) :
    Tr.OracleDate.trunc_month od = OracleDate.trunc .month od := by
  unfold Tr.OracleDate.trunc_month
  tr_unit_eq tr_unit_ts

@[tr_eq] theorem OracleDate.trunc_week_eq (od : Int) (h0 : -210866803200000000 ≤ od) (h1 : od ≤ 9223372036854775807) :
    Tr.OracleDate.trunc_week od = OracleDate.trunc .week od := by
  unfold Tr.OracleDate.trunc_week
  tr_unit_eq tr_unit_ts

@[tr_eq] theorem OracleDate.trunc_iso_week_eq (od : Int) (h0 : -9223372036854775808 ≤ od) (h1 : od ≤ 9223372036854775807) :
    Tr.OracleDate.trunc_iso_week od = OracleDate.trunc .isoWeek od := by
  unfold Tr.OracleDate.trunc_iso_week
  tr_unit_eq tr_unit_ts

@[tr_eq] theorem OracleDate.trunc_month_start_week_eq (od : Int) (h0 : -210866803200000000 ≤ od) (h1 : od ≤ 9223372036854775807) :
    Tr.OracleDate.trunc_month_start_week od = OracleDate.trunc .monthStartWeek od := by
  unfold Tr.OracleDate.trunc_month_start_week
  tr_unit_eq tr_unit_ts

@[tr_eq] theorem OracleDate.trunc_day_eq (od : Int) (h0 : -9223372036854775808 ≤ od) (h1 : od ≤ 9223372036854775807) :
    Tr.OracleDate.trunc_day od = OracleDate.trunc .day od := by
  unfold Tr.OracleDate.trunc_day
  tr_unit_eq tr_unit_ts

@[tr_eq] theorem OracleDate.trunc_sunday_start_week_eq (od : Int) (h0 : -210866803200000000 ≤ od) (h1 : od ≤ 9223372036854775807) :
    Tr.OracleDate.trunc_sunday_start_week od = OracleDate.trunc .sundayStartWeek od := by
  unfold Tr.OracleDate.trunc_sunday_start_week
  tr_unit_eq tr_unit_ts

@[tr_eq] theorem OracleDate.trunc_hour_eq (od : Int) (h0 : -9223372036854775808 ≤ od) (h1 : od ≤ 9223372036854775807) :
    Tr.OracleDate.trunc_hour od = OracleDate.trunc .hour od := by
  unfold Tr.OracleDate.trunc_hour
  tr_unit_eq tr_unit_ts

@[tr_eq] theorem OracleDate.trunc_minute_eq (od : Int) (h0 : -9223372036854775808 ≤ od) (h1 : od ≤ 9223372036854775807) :
    Tr.OracleDate.trunc_minute od = OracleDate.trunc .minute od := by
  unfold Tr.OracleDate.trunc_minute
  tr_unit_eq tr_unit_ts

@[tr_eq] theorem OracleDate.round_century_eq (od : Int) (h0 : -210866803200000000 ≤ od) (h1 : od ≤ 9223372036854775807) :
    Tr.OracleDate.round_century od = OracleDate.round .century od := by
  unfold Tr.OracleDate.round_century
  tr_unit_eq tr_unit_ts

@[tr_eq] theorem OracleDate.round_year_eq (od : Int) (h0 : -210866803200000000 ≤ od) (h1 : od ≤ 9223372036854775807) :
    Tr.OracleDate.round_year od = OracleDate.round .year od := by
  unfold Tr.OracleDate.round_year
  tr_unit_eq tr_unit_ts

@[tr_eq] theorem OracleDate.round_quarter_eq (od : Int) (h0 : -210866803200000000 ≤ od) (h1 : od ≤ 9223372036854775807) :
    Tr.OracleDate.round_quarter od = OracleDate.round .quarter od := by
  unfold Tr.OracleDate.round_quarter
  tr_unit_eq tr_unit_ts

@[tr_eq] theorem OracleDate.round_month_eq (od : Int) (h0 : -210866803200000000 ≤ od) (h1 : od ≤ 9223372036854775807) :
    Tr.OracleDate.round_month od = OracleDate.round .month od := by
  unfold Tr.OracleDate.round_month
  tr_unit_eq tr_unit_ts

@[tr_eq] theorem OracleDate.round_week_eq (od : Int) (hod : isValidTimestamp od) :
    Tr.OracleDate.round_week od = OracleDate.round .week od := by
  unfold Tr.OracleDate.round_week
  tr_unit_eq tr_unit_ts

@[tr_eq] theorem OracleDate.round_iso_week_eq (od : Int) (h0 : -9223372036854775808 ≤ od) (h1 : od ≤ 9223372036854775807) :
    Tr.OracleDate.round_iso_week od = OracleDate.round .isoWeek od := by
  unfold Tr.OracleDate.round_iso_week
  tr_unit_eq tr_unit_ts

@[tr_eq] theorem OracleDate.round_month_start_week_eq (od : Int) (h0 : -210866803200000000 ≤ od) (h1 : od ≤ 9223372036854775807) :
    Tr.OracleDate.round_month_start_week od = OracleDate.round .monthStartWeek od := by
  unfold Tr.OracleDate.round_month_start_week
  tr_unit_eq tr_unit_ts

@[tr_eq] theorem OracleDate.round_day_eq (od : Int) (h0 : -9223372036854775808 ≤ od) (h1 : od ≤ 9223372036854775807) :
    Tr.OracleDate.round_day od = OracleDate.round .day od := by
  unfold Tr.OracleDate.round_day
  tr_unit_eq tr_unit_ts

@[tr_eq] theorem OracleDate.round_sunday_start_week_eq (od : Int) (h0 : -9223372036854775808 ≤ od) (h1 : od ≤ 9223372036854775807) :
    Tr.OracleDate.round_sunday_start_week od = OracleDate.round .sundayStartWeek od := by
  unfold Tr.OracleDate.round_sunday_start_week
  tr_unit_eq tr_unit_ts

@[tr_eq] theorem OracleDate.round_hour_eq (od : Int) (h0 : -9223372036854775808 ≤ od) (h1 : od ≤ 9223372036854775807) :
    Tr.OracleDate.round_hour od = OracleDate.round .hour od := by
  unfold Tr.OracleDate.round_hour
  tr_unit_eq tr_unit_ts

@[tr_eq] theorem OracleDate.round_minute_eq (od : Int) (h0 : -9223372036854775808 ≤ od) (h1 : od ≤ 9223372036854775807) :
    Tr.OracleDate.round_minute od = OracleDate.round .minute od := by
  unfold Tr.OracleDate.round_minute
  tr_unit_eq tr_unit_ts

end SqlDt.TrEq
