/-
  Lemmas/Render: field by field, `Formatter::format` (table lookups, `write_u32`) produces the arithmetic
  rendering of Spec/Render; whole pictures follow because `Sink.write` acts on sinks like concatenation
  (`write_append`), for a sink with or without a capacity.
-/
import SqlDt.Lemmas.Digits
import SqlDt.Lemmas.Basic
namespace SqlDt.Lemmas
open SqlDt Gen Spec

theorem month_table : MONTH_TABLE = (List.range 13).map (pad 2) := by decide +kernel
theorem hour_table : HOUR_TABLE = (List.range 25).map (pad 2) := by decide +kernel
theorem day_table : DAY_TABLE = (List.range 32).map (pad 2) := by decide +kernel
theorem minute_second_table : MINUTE_SECOND_TABLE = (List.range 61).map (pad 2) := by decide +kernel
theorem day_of_week_table : DAY_OF_WEEK_TABLE = (List.range 8).map (pad 1) := by decide +kernel
theorem day_of_year_table : DAY_OF_YEAR_TABLE = (List.range 367).map (pad 3) := by decide +kernel
theorem week_of_month_table :
    WEEK_OF_MONTH_TABLE = (List.range 32).map (fun d => if d = 0 then pad 1 0 else pad 1 (weekOf d)) := by decide +kernel
theorem week_of_year_table :
    WEEK_OF_YEAR_TABLE = (List.range 367).map (fun n => if n = 0 then pad 2 0 else pad 2 (weekOf n)) := by decide +kernel

/-- The formatter's `NaiveDateTime` carries the components `c`, all within the ranges a valid value has (year and day, large
    in intervals, within `u32::MAX` = 4294967295: they go through `write_u32`). -/
structure Agrees (ty : Ty) (v : Int) (dt : NDT) (c : Comps) : Prop where
  year : dt.year = c.year
  month : dt.month = c.month
  day : dt.day = c.day
  hour : dt.hour = c.hour
  minute : dt.minute = c.minute
  sec : dt.sec = c.sec
  usec : dt.usec = c.usec
  yearR : 0 ≤ c.year ∧ c.year ≤ 4294967295
  monthR : 0 ≤ c.month ∧ c.month ≤ 12
  dayR : 0 ≤ c.day ∧ c.day ≤ 4294967295
  hourR : 0 ≤ c.hour ∧ c.hour ≤ 23
  minuteR : 0 ≤ c.minute ∧ c.minute ≤ 59
  secR : 0 ≤ c.sec ∧ c.sec ≤ 59
  /-- date types: a real month/day, the weekday and the ordinal day -/
  date : (ty = .D ∨ ty = .TS ∨ ty = .OD) →
    1 ≤ c.month ∧ 1 ≤ c.day ∧ c.day ≤ 31 ∧ c.year ≤ 9999 ∧
    (∃ d, ty.dateOf v = some d ∧ Date.dayOfWeek d = c.dow0 + 1) ∧ 0 ≤ c.dow0 ∧ c.dow0 ≤ 6 ∧
    theDayOfYear dt.year dt.month dt.day = c.doy ∧ 1 ≤ c.doy ∧ c.doy ≤ 366

def outcome (w : Sink) : Option Bytes → Chk Sink
  | some bs => w.write bs
  | none => .error .FormatError

theorem info_cases (ty : Ty) :
    (ty.info.HAS_DATE = decide (ty = .D ∨ ty = .TS ∨ ty = .OD)) ∧
    (ty.info.HAS_TIME = decide (ty = .T ∨ ty = .TS ∨ ty = .OD ∨ ty = .DT)) ∧
    (ty.info.HAS_FRACTION = decide (ty = .T ∨ ty = .TS ∨ ty = .DT)) ∧
    (ty.info.IS_INTERVAL_YM = decide (ty = .YM)) ∧ (ty.info.IS_INTERVAL_DT = decide (ty = .DT)) := by
  cases ty <;> decide

/-- The flag test of the formatter against the applicability test of the specification. -/
theorem ite_outcome {b : Bool} {p : Prop} [Decidable p] (hb : b = decide p) {x y : Chk Sink} {w : Sink} {r s : Option Bytes}
    (hx : p → x = outcome w r) (hy : ¬ p → y = outcome w s) : (if b = true then x else y) = outcome w (if p then r else s) := by
  by_cases hp : p
  · simp only [hb, hp, decide_true, ↓reduceIte, hx hp]
  · simp only [hb, hp, decide_false, Bool.false_eq_true, ↓reduceIte, hy hp]

theorem write_table {n : Nat} {g : Nat → Bytes} {tbl : List Bytes} (ht : tbl = (List.range n).map g) (w : Sink) (i : Int)
    (h0 : 0 ≤ i) (hn : i < n) : (do w.write (← idx tbl i)) = outcome w (some (g i.toNat)) := by
  rw [ht, idx_eq_ok h0 (by simp; omega)]; simp [outcome]

theorem clock12_cases (ty : Ty) :
    (ty.info.HAS_TIME && !ty.info.IS_INTERVAL_DT) = decide (ty = .T ∨ ty = .TS ∨ ty = .OD) := by cases ty <;> rfl

theorem hour12_eq (dt : NDT) (c : Comps) (hh : dt.hour = c.hour) (hr : 0 ≤ c.hour ∧ c.hour ≤ 23) :
    dt.hour12 = hour12Of c.hour ∧ 1 ≤ hour12Of c.hour ∧ hour12Of c.hour ≤ 12 := by
  unfold NDT.hour12 hour12Of; rw [hh]
  refine ⟨?_, by omega, by omega⟩
  split
  · omega
  · split <;> omega

theorem ampmText_eq (style : AmPmStyle) (hour : Int) (h0 : 0 ≤ hour) : ampmText style hour = .ok (meridianText style hour) := by
  unfold ampmText meridianText
  by_cases ham : hour ≤ 11
  · rw [if_pos ⟨h0, ham⟩]; cases style <;> simp only [(by omega : hour < 12), ↓reduceIte] <;> decide
  · rw [if_neg (fun hc => ham hc.2)]; cases style <;> simp only [if_neg (by omega : ¬ hour < 12)] <;> decide

theorem month_name_table (style : NameStyle) :
    MONTH_NAME_TABLE.getD style.index [] = monthNames.map (styled style) := by
  cases style <;> decide +kernel

theorem day_name_table (style : NameStyle) :
    DAY_NAME_TABLE.getD style.index [] = dayNames.map (styled style) := by
  cases style <;> decide +kernel

/-- The name tables have six rows, one per letter-case style. -/
theorem write_name {tbl : List (List Bytes)} {names : List Bytes} (style : NameStyle) (hlen : tbl.length = 6)
    (ht : tbl.getD style.index [] = names.map (styled style)) (w : Sink) (i : Int) (h0 : 0 ≤ i) (hn : i < names.length) :
    (do let row ← idx tbl style.index; w.write (← idx row i)) = outcome w (some (styled style (names.getD i.toNat []))) := by
  have h6 : style.index < tbl.length := by rw [hlen]; cases style <;> decide
  have hi : i.toNat < names.length := by omega
  rw [idx_eq_ok (Int.natCast_nonneg _) (by simpa using h6), Chk.ok_bind,
    show tbl[(style.index : Int).toNat]'(by simpa using h6) = tbl.getD style.index [] by simp [h6], ht,
    idx_eq_ok h0 (by simpa using hi)]
  simp [hi, outcome]

theorem writeU32_int (x : Int) (w : Nat) (h0 : 0 ≤ x) (h1 : x ≤ 4294967295) : writeU32 x w = pad w x.toNat := by
  obtain ⟨k, rfl⟩ := Int.eq_ofNat_of_zero_le h0
  have := writeU32_eq_pad k w (by omega)
  simpa using this

/-- Fields the lexer can produce: year width 1..4, fraction precision 1..9, never `Invalid`. -/
def Field.WellFormed : Field → Prop
  | .Invalid => False
  | .Year n => 1 ≤ n ∧ n ≤ 4
  | .Fraction (some p) => 1 ≤ p ∧ p ≤ 9
  | _ => True

/-- The fraction step, isolated: the float division followed by truncation gives `fractionOf`. -/
def FractionOK (dt : NDT) (c : Comps) : Prop :=
  ∀ p, p ≤ 9 → dt.fraction p = .ok (fractionOf c.usec p) ∧ 0 ≤ fractionOf c.usec p ∧ fractionOf c.usec p ≤ 4294967295

theorem wf_fraction {p : Option Nat} (h : Field.WellFormed (.Fraction p)) :
    1 ≤ p.getD 6 ∧ p.getD 6 ≤ 9 ∧ p.getD 6 ≤ p.getD 9 := by
  cases p with
  | none => decide
  | some q => exact ⟨h.1, h.2, Nat.le_refl q⟩

theorem formatField_eq_render (ty : Ty) (v : Int) (dt : NDT) (c : Comps) (w : Sink) (f : Field)
    (h : Agrees ty v dt c) (hf : Field.WellFormed f) (hfr : FractionOK dt c) :
    Formatter.formatField ty v dt w f = outcome w (renderField ty c f) := by
  obtain ⟨hD, hT, hF, hYM, hDT⟩ := info_cases ty
  have hmo := h.monthR
  have hho := h.hourR
  have hmi := h.minuteR
  have hse := h.secR
  cases f with
  | Invalid => exact hf.elim
  | Blank n => rfl
  | Hyphen => rfl
  | Colon => rfl
  | Slash => rfl
  | Backslash => rfl
  | Comma => rfl
  | Dot => rfl
  | Semicolon => rfl
  | T => rfl
  | Year n =>
    have hy := h.yearR
    rw [Formatter.formatField, renderField, h.year]
    refine ite_outcome hD (fun hd => ?_) fun _ => ite_outcome hYM (fun _ => ?_) fun _ => rfl
    · have y9999 := (h.date hd).2.2.2.1
      obtain rfl | rfl | rfl | rfl : n = 1 ∨ n = 2 ∨ n = 3 ∨ n = 4 := by have := hf.1; have := hf.2; omega
      all_goals
        show w.write (writeU32 (asU32 (rrem c.year _)) _) = _
        rw [rrem_nonneg_eq hy.1, asU32, Int.emod_eq_of_lt (by omega) (by omega), writeU32_int _ _ (by omega) (by omega)]
        rfl
    · rw [asU32, Int.emod_eq_of_lt hy.1 (by omega), writeU32_int _ _ hy.1 hy.2]; rfl
  | Month =>
    refine ite_outcome (by rw [hD, hYM, ← Bool.decide_or]) (fun _ => ?_) fun _ => rfl
    rw [h.month]; exact write_table month_table w _ hmo.1 (by omega)
  | Day =>
    have hr := h.dayR
    have tbl : c.day < 32 → (do w.write (← idx DAY_TABLE c.day)) = outcome w (some (pad 2 c.day.toNat)) := fun h32 =>
      write_table day_table w _ hr.1 (by omega)
    have e : ∀ (p q : Prop) [Decidable p] [Decidable q] (r : Option Bytes),
        (if p ∨ q then r else none) = if p then r else if q then r else none := by
      intro p q _ _ r; by_cases hp : p <;> simp [hp]
    rw [Formatter.formatField, renderField, h.day, e]
    refine ite_outcome hD (fun hd => tbl (by have := h.date hd; omega)) fun _ => ite_outcome hDT (fun _ => ?_) fun _ => rfl
    -- IntervalDT: table below 32, plain decimal from 32 on; both are `pad 2`
    by_cases h32 : c.day < 32
    · rw [if_pos h32]; exact tbl h32
    · rw [if_neg h32, pad_of_long 2 c.day.toNat (digits_length_ge2 _ (by omega)), ← displayU32_eq_digits _ (by omega),
        Int.ofNat_eq_natCast, Int.toNat_of_nonneg hr.1]
      rfl
  | DayName s =>
    refine ite_outcome hD (fun hd => ?_) fun _ => rfl
    obtain ⟨_, _, _, _, ⟨d, hdate, hdow⟩, w0, w6, _⟩ := h.date hd
    simp only [hdate, Chk.pure_eq, Chk.ok_bind, hdow]
    rw [write_name s (by decide) (day_name_table s) w _ (by omega) (by simp [dayNames]; omega), Int.add_sub_cancel]
  | MonthName s =>
    refine ite_outcome hD (fun hd => ?_) fun _ => rfl
    have m1 := (h.date hd).1
    rw [h.month, if_neg (by omega)]
    exact write_name s (by decide) (month_name_table s) w _ (by omega) (by simp [monthNames]; omega)
  | Hour24 =>
    refine ite_outcome hT (fun _ => ?_) fun _ => rfl
    rw [h.hour]; exact write_table hour_table w _ hho.1 (by omega)
  | Hour12 =>
    obtain ⟨e, lo, hi⟩ := hour12_eq dt c h.hour hho
    refine ite_outcome (clock12_cases ty) (fun _ => ?_) fun _ => rfl
    rw [e]; exact write_table hour_table w _ (by omega) (by omega)
  | Minute =>
    refine ite_outcome hT (fun _ => ?_) fun _ => rfl
    rw [h.minute]; exact write_table minute_second_table w _ hmi.1 (by omega)
  | Second =>
    refine ite_outcome hT (fun _ => ?_) fun _ => rfl
    rw [h.sec]; exact write_table minute_second_table w _ hse.1 (by omega)
  | Fraction p =>
    obtain ⟨e, lo, hi⟩ := hfr (p.getD 6) (wf_fraction hf).2.1
    refine ite_outcome hF (fun _ => ?_) fun _ => rfl
    simp only [e, Chk.ok_bind, writeU32_int _ _ lo hi]
    rfl
  | AmPm s =>
    refine ite_outcome (clock12_cases ty) (fun _ => ?_) fun _ => rfl
    rw [h.hour, ampmText_eq s c.hour hho.1]; rfl
  | DayOfWeek =>
    refine ite_outcome hD (fun hd => ?_) fun _ => rfl
    obtain ⟨_, _, _, _, ⟨d, hdate, hdow⟩, w0, w6, _⟩ := h.date hd
    simp only [hdate, Chk.pure_eq, Chk.ok_bind, hdow]
    exact write_table day_of_week_table w _ (by omega) (by omega)
  | DayOfYear =>
    refine ite_outcome hD (fun hd => ?_) fun _ => rfl
    obtain ⟨_, _, _, _, _, _, _, hdoy, y1, y366⟩ := h.date hd
    rw [hdoy]; exact write_table day_of_year_table w _ (by omega) (by omega)
  | WeekOfMonth =>
    refine ite_outcome hD (fun hd => ?_) fun _ => rfl
    obtain ⟨_, d1, d31, _⟩ := h.date hd
    rw [h.day, write_table week_of_month_table w _ (by omega) (by omega), if_neg (by omega)]
  | WeekOfYear =>
    refine ite_outcome hD (fun hd => ?_) fun _ => rfl
    obtain ⟨_, _, _, _, _, _, _, hdoy, y1, y366⟩ := h.date hd
    rw [hdoy, write_table week_of_year_table w _ (by omega) (by omega), if_neg (by omega)]

/-- does a text of `n` bytes fit under the capacity? -/
def capOk : Option Nat → Nat → Bool
  | none, _ => true
  | some c, n => decide (n ≤ c)

theorem write_eq (w : Sink) (bs : Bytes) :
    w.write bs = if capOk w.cap (w.buf.length + bs.length) then .ok { w with buf := w.buf ++ bs } else .error .FormatError := by
  obtain ⟨buf, cap⟩ := w
  cases cap with
  | none => rfl
  | some c => by_cases h : buf.length + bs.length ≤ c <;> simp [Sink.write, capOk, h, Nat.not_lt.2, Nat.lt_of_not_le]

theorem write_nil (w : Sink) (hw : capOk w.cap w.buf.length = true) : w.write [] = .ok w := by
  simp [write_eq, hw]

/-- Writing `a` then `b` is writing `a ++ b`: a text that does not fit is refused at its first piece that does not. -/
theorem write_append (w : Sink) (a b : Bytes) : ((w.write a).bind fun w' => w'.write b) = w.write (a ++ b) := by
  obtain ⟨buf, cap⟩ := w
  cases cap with
  | none => simp [Sink.write, Except.bind]
  | some c =>
    by_cases h : buf.length + a.length > c
    · have : buf.length + (a.length + b.length) > c := by omega
      simp [Sink.write, Except.bind, h, this]
    · simp [Sink.write, Except.bind, h, Nat.add_assoc]

/-- Under a successful write only sinks within their capacity are seen. -/
theorem bind_write_congr {α} (w : Sink) (a : Bytes) {f g : Sink → Chk α}
    (h : ∀ w', capOk w'.cap w'.buf.length = true → f w' = g w') : (w.write a).bind f = (w.write a).bind g := by
  rw [write_eq]
  split
  · exact h _ (by simpa using ‹_›)
  · rfl

theorem outcome_append (w : Sink) (a : Bytes) (r : Option Bytes) :
    ((w.write a).bind fun w' => outcome w' r) = outcome w (r.bind fun b => some (a ++ b)) := by
  cases r with
  | some b => exact write_append w a b
  | none => rw [write_eq]; split <;> rfl

theorem formatFields_outcome (ty : Ty) (v : Int) (dt : NDT) (c : Comps) (h : Agrees ty v dt c) (hfr : FractionOK dt c) :
    ∀ (fields : List Field) (w : Sink), capOk w.cap w.buf.length = true → (∀ f ∈ fields, Field.WellFormed f) →
      Formatter.formatFields ty v dt w fields = outcome w (renderAll ty c fields)
  | [], w, hw, _ => (write_nil w hw).symm
  | f :: fs, w, hw, hwf => by
    rw [Formatter.formatFields, formatField_eq_render ty v dt c w f h (hwf f (by simp)) hfr, renderAll]
    cases renderField ty c f with
    | none => rfl
    | some a =>
      exact (bind_write_congr w a fun w' hw' =>
        formatFields_outcome ty v dt c h hfr fs w' hw' fun g hg => hwf g (by simp [hg])).trans
        (outcome_append w a (renderAll ty c fs))

end SqlDt.Lemmas
