/-
  Lemmas/RenderValues: the six types.  `Renders ty v c` bundles what `format_sink` asks of a value and its components.  It is
  established once per type (`renders_date` … `renders_dt`) for the value built from components in range, by computing the
  `NaiveDateTime` of that value; every valid value is built so (`decomp_*`), hence `renders_exists`.  A statement about
  `format` on one type, or on all valid values, is an instance.
-/
import SqlDt.Model.Parse
import SqlDt.Lemmas.FloatFrac
import SqlDt.Lemmas.RenderCap
import SqlDt.Lemmas.WellFormed
import SqlDt.Props.C01
import SqlDt.Props.C13
import SqlDt.Props.C16
namespace SqlDt.Lemmas
open SqlDt Gen Spec

theorem fractionOK_of (dt : NDT) (c : Comps) (h : dt.usec = c.usec) (hr : 0 ≤ c.usec ∧ c.usec ≤ 999999) : FractionOK dt c := by
  intro p hp
  refine ⟨?_, ?_, ?_⟩
  · rw [← h]; exact fraction_eq dt p (by rw [h]; exact hr) hp
  · unfold fractionOf; split
    · exact Int.ediv_nonneg hr.1 (by positivity)
    · exact Int.mul_nonneg hr.1 (by positivity)
  · unfold fractionOf; split
    · have : c.usec / ((10 ^ (6 - p) : Nat) : Int) ≤ c.usec := Int.ediv_le_self _ hr.1
      omega
    · rename_i hp6
      have : p = 7 ∨ p = 8 ∨ p = 9 := by omega
      rcases this with rfl | rfl | rfl <;> simp <;> omega

/-- the hypotheses under which `Formatter::format` is characterised by `Spec.render` -/
def Renders (ty : Ty) (v : Int) (c : Comps) : Prop :=
  Agrees ty v (NDT.ofValue ty v) c ∧ FractionOK (NDT.ofValue ty v) c ∧ (NDT.ofValue ty v).negative = c.neg

theorem Renders.format {ty : Ty} {v : Int} {c : Comps} (h : Renders ty v c) (fields : List Field)
    (hwf : ∀ f ∈ fields, Field.WellFormed f) : Formatter.format ty v fields none = toChk (render ty c fields) :=
  format_eq_render ty v c h.1 h.2.1 h.2.2 fields hwf

/-- From the picture text, into any sink: the picture's compile error, or the specified rendering if it fits. -/
theorem Renders.formatValue {ty : Ty} {v : Int} {c : Comps} (h : Renders ty v c) (pic : Bytes) (cap : Option Nat) :
    formatValue ty v pic cap = (Lexer.tryNew pic).bind fun fields => toChkCap cap (render ty c fields) := by
  unfold SqlDt.formatValue
  cases ht : Lexer.tryNew pic with
  | error e => rfl
  | ok fields => exact format_sink ty v c h.1 h.2.1 h.2.2 fields (tryNew_wf pic fields ht) cap

theorem renders_of_ndt {ty : Ty} {v : Int} {c : Comps}
    (hdt : NDT.ofValue ty v = { year := c.year, month := c.month, day := c.day, hour := c.hour, minute := c.minute,
                                sec := c.sec, usec := c.usec, negative := c.neg })
    (hr : (0 ≤ c.year ∧ c.year ≤ 4294967295) ∧ (0 ≤ c.month ∧ c.month ≤ 12) ∧ (0 ≤ c.day ∧ c.day ≤ 4294967295) ∧
      (0 ≤ c.hour ∧ c.hour ≤ 23) ∧ (0 ≤ c.minute ∧ c.minute ≤ 59) ∧ (0 ≤ c.sec ∧ c.sec ≤ 59) ∧
      (0 ≤ c.usec ∧ c.usec ≤ 999999))
    (hdate : (ty = .D ∨ ty = .TS ∨ ty = .OD) → ValidYMD c.year c.month c.day ∧
      ty.dateOf v = some (dayNumber c.year c.month c.day) ∧ c.dow0 = weekday (dayNumber c.year c.month c.day) ∧
      c.doy = daysBeforeMonth c.year c.month + c.day) : Renders ty v c := by
  obtain ⟨hy, hmo, hd, hh, hmi, hs, hu⟩ := hr
  refine ⟨{ year := by rw [hdt], month := by rw [hdt], day := by rw [hdt], hour := by rw [hdt], minute := by rw [hdt],
            sec := by rw [hdt], usec := by rw [hdt], yearR := hy, monthR := hmo, dayR := hd, hourR := hh, minuteR := hmi,
            secR := hs, date := ?_ }, fractionOK_of _ _ (by rw [hdt]) hu, by rw [hdt]⟩
  intro hty
  obtain ⟨⟨y1, y9, m1, m12, d1, dd⟩, hdo, hdow, hdoy⟩ := hdate hty
  have d31 := dim_le31 _ _ _ dd
  have rdoy := doy_range _ _ _ ⟨m1, m12, d1, dd⟩
  simp only [hdt, hdow, hdoy]
  refine ⟨m1, d1, d31, y9, ⟨_, hdo, C01.dayOfWeek_eq _⟩, ?_, ?_, theDayOfYear_eq _ _ _ ⟨m1, m12⟩, rdoy⟩ <;>
    (unfold weekday; omega)

theorem renders_date (y m d : Int) (h : ValidYMD y m d) : Renders .D (dayNumber y m d) (compsOfDate y m d) := by
  have ⟨y1, y9, m1, m12, d1, dd⟩ := h
  have d31 := dim_le31 y m d dd
  refine renders_of_ndt ?_ (by simp only [compsOfDate]; omega) fun _ => ⟨h, rfl, rfl, rfl⟩
  simp only [NDT.ofValue, NDT.ofDate, extract_dayNumber y m d h.2.2, compsOfDate]

theorem format_date (y m d : Int) (h : ValidYMD y m d) (fields : List Field) (hwf : ∀ f ∈ fields, Field.WellFormed f) :
    Formatter.format .D (dayNumber y m d) fields none = toChk (render .D (compsOfDate y m d) fields) :=
  (renders_date y m d h).format fields hwf

def compsOfTime (h mi s us : Int) : Comps := { hour := h, minute := mi, sec := s, usec := us }

theorem renders_time (h mi s us : Int) (hh : 0 ≤ h ∧ h < 24) (hm : 0 ≤ mi ∧ mi < 60) (hs : 0 ≤ s ∧ s < 60)
    (hu : 0 ≤ us ∧ us < 1000000) : Renders .T (Time.fromHmsUnchecked h mi s us) (compsOfTime h mi s us) := by
  refine renders_of_ndt ?_ (by simp only [compsOfTime]; omega) (by simp)
  simp only [NDT.ofValue, NDT.ofTime, Time.extract_fromHms h mi s us hh.1 hm hs hu, compsOfTime]
  rfl

theorem format_time (h mi s us : Int) (hh : 0 ≤ h ∧ h < 24) (hm : 0 ≤ mi ∧ mi < 60) (hs : 0 ≤ s ∧ s < 60)
    (hu : 0 ≤ us ∧ us < 1000000) (fields : List Field) (hwf : ∀ f ∈ fields, Field.WellFormed f) :
    Formatter.format .T (Time.fromHmsUnchecked h mi s us) fields none = toChk (render .T (compsOfTime h mi s us) fields) :=
  (renders_time h mi s us hh hm hs hu).format fields hwf

def compsOfTs (y m d h mi s us : Int) : Comps :=
  { compsOfDate y m d with hour := h, minute := mi, sec := s, usec := us }

def tsOf (y m d h mi s us : Int) : Int := dayNumber y m d * 86400000000 + Time.fromHmsUnchecked h mi s us

theorem time_range (h mi s us : Int) (hh : 0 ≤ h ∧ h < 24) (hm : 0 ≤ mi ∧ mi < 60) (hs : 0 ≤ s ∧ s < 60)
    (hu : 0 ≤ us ∧ us < 1000000) : 0 ≤ Time.fromHmsUnchecked h mi s us ∧ Time.fromHmsUnchecked h mi s us < 86400000000 := by
  rw [Time.fromHmsUnchecked_eq]; omega

theorem tsOf_valid (y m d h mi s us : Int) (hv : ValidYMD y m d) (hh : 0 ≤ h ∧ h < 24) (hm : 0 ≤ mi ∧ mi < 60)
    (hs : 0 ≤ s ∧ s < 60) (hu : 0 ≤ us ∧ us < 1000000) : isValidTimestamp (tsOf y m d h mi s us) := by
  have tr := time_range h mi s us hh hm hs hu
  have dr := dayNumber_range y m d hv
  rw [isValidTimestamp_iff]; unfold tsOf; omega

theorem ndt_ofTimestamp (y m d h mi s us : Int) (hv : ValidYMD y m d) (hh : 0 ≤ h ∧ h < 24) (hm : 0 ≤ mi ∧ mi < 60)
    (hs : 0 ≤ s ∧ s < 60) (hu : 0 ≤ us ∧ us < 1000000) :
    NDT.ofTimestamp (tsOf y m d h mi s us) =
      { year := y, month := m, day := d, hour := h, minute := mi, sec := s, usec := us } ∧
    Timestamp.date (tsOf y m d h mi s us) = dayNumber y m d := by
  have tr := time_range h mi s us hh hm hs hu
  have e1 : tsOf y m d h mi s us / 86400000000 = dayNumber y m d := by unfold tsOf; omega
  have e2 : tsOf y m d h mi s us % 86400000000 = Time.fromHmsUnchecked h mi s us := by unfold tsOf; omega
  constructor
  · unfold NDT.ofTimestamp
    rw [Timestamp.extract_eq, e1, e2]
    simp only [extract_dayNumber y m d hv.2.2, Time.extract_fromHms h mi s us hh.1 hm hs hu]
  · rw [Timestamp.date_eq, e1]

theorem renders_ts (ty : Ty) (hty : ty = .TS ∨ ty = .OD) (y m d h mi s us : Int) (hv : ValidYMD y m d)
    (hh : 0 ≤ h ∧ h < 24) (hm : 0 ≤ mi ∧ mi < 60) (hs : 0 ≤ s ∧ s < 60) (hu : 0 ≤ us ∧ us < 1000000) :
    Renders ty (tsOf y m d h mi s us) (compsOfTs y m d h mi s us) := by
  obtain ⟨e, edate⟩ := ndt_ofTimestamp y m d h mi s us hv hh hm hs hu
  have d31 := dim_le31 y m d hv.2.2.2.2.2
  have ⟨y1, y9, m1, m12, d1, _⟩ := hv
  refine renders_of_ndt ?_ (by simp only [compsOfTs, compsOfDate]; omega) fun _ => ⟨hv, ?_, rfl, rfl⟩
  · rcases hty with rfl | rfl <;> simp only [NDT.ofValue, e, compsOfTs, compsOfDate]
  · rcases hty with rfl | rfl <;> simp only [Ty.dateOf, edate, compsOfTs, compsOfDate]

-- intervals: `extract` takes the sign off first and splits the magnitude as for a positive value;
-- 178000000 = `INTERVAL_MAX_YEAR`, 100000000 = `INTERVAL_MAX_DAY`

theorem ym_extract_neg (x : Int) (hx : 0 < x) : IntervalYM.extract (-x) = (-1, (IntervalYM.extract x).2) := by
  simp only [IntervalYM.extract, show -x < 0 by omega, show ¬ x < 0 by omega, ↓reduceIte, Int.neg_neg]

theorem dt_extract_neg (x : Int) (hx : 0 < x) : IntervalDT.extract (-x) = (-1, (IntervalDT.extract x).2) := by
  simp only [IntervalDT.extract, show -x < 0 by omega, show ¬ x < 0 by omega, ↓reduceIte, Int.neg_neg]

def compsOfYM (neg : Bool) (y mo : Int) : Comps := { year := y, month := mo, neg := neg }
def ymOf (neg : Bool) (y mo : Int) : Int := if neg then -(y * 12 + mo) else y * 12 + mo

theorem ndt_ofIntervalYM (neg : Bool) (y mo : Int) (hy : 0 ≤ y) (hm : 0 ≤ mo ∧ mo < 12) (hz : neg = true → y * 12 + mo ≠ 0) :
    NDT.ofIntervalYM (ymOf neg y mo) = { year := y, month := mo, negative := neg } := by
  have e := C13.ym_extract_fromYm y mo hy hm.1 hm.2
  unfold NDT.ofIntervalYM ymOf
  cases neg with
  | false => rw [if_neg (by decide), e]; rfl
  | true => rw [if_pos rfl, ym_extract_neg _ (by have := hz rfl; omega), e]; rfl

theorem renders_ym (neg : Bool) (y mo : Int) (hy : 0 ≤ y ∧ y ≤ 178000000) (hm : 0 ≤ mo ∧ mo < 12)
    (hz : neg = true → y * 12 + mo ≠ 0) : Renders .YM (ymOf neg y mo) (compsOfYM neg y mo) := by
  refine renders_of_ndt ?_ (by simp only [compsOfYM]; omega) (by simp)
  simp only [NDT.ofValue, ndt_ofIntervalYM neg y mo hy.1 hm hz, compsOfYM]

def compsOfDT (neg : Bool) (d h mi s us : Int) : Comps := { day := d, hour := h, minute := mi, sec := s, usec := us, neg := neg }
def dtMag (d h mi s us : Int) : Int := d * 86400000000 + h * 3600000000 + mi * 60000000 + s * 1000000 + us
def dtOf (neg : Bool) (d h mi s us : Int) : Int := if neg then -(dtMag d h mi s us) else dtMag d h mi s us

theorem dtMag_eq (d h mi s us : Int) : dtMag d h mi s us = IntervalDT.fromDhmsUnchecked d h mi s us := by
  rw [dtMag, IntervalDT.fromDhmsUnchecked_eq]; omega

theorem ndt_ofIntervalDT (neg : Bool) (d h mi s us : Int) (hd : 0 ≤ d) (hh : 0 ≤ h ∧ h < 24) (hm : 0 ≤ mi ∧ mi < 60)
    (hs : 0 ≤ s ∧ s < 60) (hu : 0 ≤ us ∧ us < 1000000) (hz : neg = true → dtMag d h mi s us ≠ 0) :
    NDT.ofIntervalDT (dtOf neg d h mi s us) =
      { day := d, hour := h, minute := mi, sec := s, usec := us, negative := neg } := by
  have e := C13.dt_extract_fromDhms d h mi s us hd hh hm hs hu
  rw [← dtMag_eq] at e
  unfold NDT.ofIntervalDT dtOf
  cases neg with
  | false => rw [if_neg (by decide), e]; rfl
  | true =>
    have hpos : 0 < dtMag d h mi s us := by have := hz rfl; unfold dtMag at *; omega
    rw [if_pos rfl, dt_extract_neg _ hpos, e]; rfl

theorem renders_dt (neg : Bool) (d h mi s us : Int) (hd : 0 ≤ d ∧ d ≤ 100000000) (hh : 0 ≤ h ∧ h < 24)
    (hm : 0 ≤ mi ∧ mi < 60) (hs : 0 ≤ s ∧ s < 60) (hu : 0 ≤ us ∧ us < 1000000) (hz : neg = true → dtMag d h mi s us ≠ 0) :
    Renders .DT (dtOf neg d h mi s us) (compsOfDT neg d h mi s us) := by
  refine renders_of_ndt ?_ (by simp only [compsOfDT]; omega) (by simp)
  simp only [NDT.ofValue, ndt_ofIntervalDT neg d h mi s us hd.1 hh hm hs hu hz, compsOfDT]
  rfl

theorem decomp_T (t : Int) (ht : 0 ≤ t ∧ t < 86400000000) :
    ∃ h mi s us, (0 ≤ h ∧ h < 24) ∧ (0 ≤ mi ∧ mi < 60) ∧ (0 ≤ s ∧ s < 60) ∧ (0 ≤ us ∧ us < 1000000) ∧
      t = Time.fromHmsUnchecked h mi s us ∧ us = t % 1000000 := by
  refine ⟨t / 3600000000, t % 3600000000 / 60000000, t % 60000000 / 1000000, t % 1000000,
    by omega, by omega, by omega, by omega, ?_, rfl⟩
  rw [Time.fromHmsUnchecked_eq]; omega

theorem decomp_TS (v : Int) (hv : isValidTimestamp v) :
    ∃ y m d h mi s us, ValidYMD y m d ∧ (0 ≤ h ∧ h < 24) ∧ (0 ≤ mi ∧ mi < 60) ∧ (0 ≤ s ∧ s < 60) ∧
      (0 ≤ us ∧ us < 1000000) ∧ v = tsOf y m d h mi s us ∧ us = v % 1000000 := by
  rw [isValidTimestamp_iff] at hv
  have hd : isValidDate (v / 86400000000) := by rw [isValidDate_iff]; omega
  obtain ⟨y, m, d, hymd, e1⟩ := date_decompose _ hd
  obtain ⟨h, mi, s, us, hh, hm, hs, hu, e2, e3⟩ := decomp_T (v % 86400000000) (by omega)
  refine ⟨y, m, d, h, mi, s, us, hymd, hh, hm, hs, hu, ?_, ?_⟩
  · unfold tsOf; rw [e1, ← e2]; omega
  · omega

theorem sign_mag (v : Int) :
    ∃ (neg : Bool) (a : Int), a = v.natAbs ∧ (neg = true → a ≠ 0) ∧ v = if neg then -a else a := by
  by_cases hn : v < 0
  · exact ⟨true, -v, by omega, fun _ => by omega, by simp⟩
  · exact ⟨false, v, by omega, nofun, by simp⟩

theorem decomp_YM (v : Int) (hv : IntervalYM.isValidMonths v) :
    ∃ neg y mo, (0 ≤ y ∧ y ≤ 178000000) ∧ (0 ≤ mo ∧ mo < 12) ∧ (neg = true → y * 12 + mo ≠ 0) ∧
      y * 12 + mo ≤ 2136000000 ∧ v = ymOf neg y mo := by
  rw [IntervalYM.isValidMonths_iff] at hv
  obtain ⟨neg, a, ha, hz, e⟩ := sign_mag v
  have hr : a ≤ 2136000000 := by omega
  rw [← Int.ediv_mul_add_emod a 12] at e hz hr
  exact ⟨neg, a / 12, a % 12, by omega, by omega, hz, hr, e⟩

theorem decomp_DT (v : Int) (hv : IntervalDT.isValidUsecs v) :
    ∃ neg d h mi s us, (0 ≤ d ∧ d ≤ 100000000) ∧ (0 ≤ h ∧ h < 24) ∧ (0 ≤ mi ∧ mi < 60) ∧ (0 ≤ s ∧ s < 60) ∧
      (0 ≤ us ∧ us < 1000000) ∧ (neg = true → dtMag d h mi s us ≠ 0) ∧ dtMag d h mi s us ≤ 8640000000000000000 ∧
      v = dtOf neg d h mi s us := by
  rw [IntervalDT.isValidUsecs_iff] at hv
  obtain ⟨neg, a, ha, hz, e⟩ := sign_mag v
  have hr : a ≤ 8640000000000000000 := by omega
  have hd : 0 ≤ a / 86400000000 ∧ a / 86400000000 ≤ 100000000 := by omega
  -- the magnitude is whole days and a time of day
  obtain ⟨h, mi, s, us, hh, hm, hs, hu, et, _⟩ := decomp_T (a % 86400000000) (by omega)
  rw [Time.fromHmsUnchecked_eq] at et
  have emag : dtMag (a / 86400000000) h mi s us = a := by unfold dtMag; omega
  rw [← emag] at e hz hr
  exact ⟨neg, a / 86400000000, h, mi, s, us, hd, hh, hm, hs, hu, hz, hr, e⟩

/-- EVERY valid value of EVERY type has components its `NaiveDateTime` agrees with. -/
theorem renders_exists (ty : Ty) (v : Int) (hv : ty.Valid v) : ∃ c, Renders ty v c := by
  cases ty <;> simp only [Ty.Valid] at hv
  · obtain ⟨y, m, d, hymd, rfl⟩ := date_decompose v hv
    exact ⟨_, renders_date y m d hymd⟩
  · obtain ⟨h, mi, s, us, hh, hm, hs, hu, rfl, _⟩ := decomp_T v ((SqlDt.isValidTime_iff v).1 hv)
    exact ⟨_, renders_time h mi s us hh hm hs hu⟩
  · obtain ⟨y, m, d, h, mi, s, us, hymd, hh, hm, hs, hu, rfl, _⟩ := decomp_TS v hv
    exact ⟨_, renders_ts .TS (Or.inl rfl) y m d h mi s us hymd hh hm hs hu⟩
  · obtain ⟨neg, y, mo, hy, hm, hz, _, rfl⟩ := decomp_YM v hv
    exact ⟨_, renders_ym neg y mo hy hm hz⟩
  · obtain ⟨neg, d, h, mi, s, us, hd, hh, hm, hs, hu, hz, _, rfl⟩ := decomp_DT v hv
    exact ⟨_, renders_dt neg d h mi s us hd hh hm hs hu hz⟩
  · obtain ⟨lo, hi, hsec⟩ := (C16.isValidDate_iff v).1 hv
    obtain ⟨y, m, d, h, mi, s, us, hymd, hh, hm, hs, hu, rfl, _⟩ := decomp_TS v ((SqlDt.isValidTimestamp_iff v).2 ⟨lo, hi⟩)
    exact ⟨_, renders_ts .OD (Or.inr rfl) y m d h mi s us hymd hh hm hs hu⟩

end SqlDt.Lemmas
