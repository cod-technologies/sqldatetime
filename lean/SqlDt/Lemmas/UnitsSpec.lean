/-
  Lemmas/UnitsSpec: the closed forms of Spec/Units are what the property says — the greatest unit boundary not after
  the value (truncation), and one of the two adjacent boundaries chosen by the documented midpoint (rounding).
  Pure calendar reasoning over Spec/Calendar; nothing here mentions the crate's code.  The boundaries on both sides of
  a day come from four arguments, one per kind of unit.
-/
import SqlDt.Lemmas.Calendar
import SqlDt.Spec.Units
namespace SqlDt.Lemmas
open SqlDt Spec Cal

namespace USpec

theorem greatest_unique {P : Int → Prop} {x b b' : Int} (h : GreatestLE P x b) (h' : GreatestLE P x b') :
    b = b' := by
  have := h.2.2 b' h'.1 h'.2.1; have := h'.2.2 b h.1 h.2.1; omega

theorem greatest_idem {P : Int → Prop} {x b : Int} (h : GreatestLE P x b) : GreatestLE P b b :=
  ⟨h.1, Int.le_refl _, fun _ _ h2 => h2⟩

theorem greatest_mono {P : Int → Prop} {x y bx bY : Int} (hxy : x ≤ y) (hx : GreatestLE P x bx)
    (hy : GreatestLE P y bY) : bx ≤ bY :=
  hy.2.2 bx hx.1 (Int.le_trans hx.2.1 hxy)

/-! ### Century, year, quarter, month: the boundaries are firsts of months -/

/-- For a unit whose boundaries are the real dates with a property `Q`: the greatest boundary not after a real date is
    found by comparing (year, month, day). -/
theorem greatest_of_dates {u : TUnit} {Q : Int → Int → Int → Prop}
    (hB : ∀ b, IsBoundary u b ↔ ∃ y m d, IsDate y m d ∧ dayNumber y m d = b ∧ Q y m d)
    {y m d yt mt dt : Int} (h : IsDate y m d) (ht : IsDate yt mt dt) (hQ : Q yt mt dt)
    (hle : yt < y ∨ (yt = y ∧ (mt < m ∨ (mt = m ∧ dt ≤ d))))
    (hmax : ∀ y' m' d', IsDate y' m' d' → Q y' m' d' → (y' < y ∨ (y' = y ∧ (m' < m ∨ (m' = m ∧ d' ≤ d)))) →
      (y' < yt ∨ (y' = yt ∧ (m' < mt ∨ (m' = mt ∧ d' ≤ dt))))) :
    GreatestLE (IsBoundary u) (dayNumber y m d) (dayNumber yt mt dt) := by
  refine ⟨(hB _).2 ⟨_, _, _, ht, rfl, hQ⟩, (dn_le_iff ht h).2 hle, ?_⟩
  intro b' hb' hle'
  obtain ⟨y', m', d', hd', rfl, hQ'⟩ := (hB _).1 hb'
  exact (dn_le_iff hd' ht).2 (hmax y' m' d' hd' hQ' ((dn_le_iff hd' h).1 hle'))

theorem least_of_dates {u : TUnit} {Q : Int → Int → Int → Prop}
    (hB : ∀ b, IsBoundary u b ↔ ∃ y m d, IsDate y m d ∧ dayNumber y m d = b ∧ Q y m d)
    {y m d yt mt dt : Int} (h : IsDate y m d) (ht : IsDate yt mt dt) (hQ : Q yt mt dt)
    (hlt : y < yt ∨ (y = yt ∧ (m < mt ∨ (m = mt ∧ d < dt))))
    (hmin : ∀ y' m' d', IsDate y' m' d' → Q y' m' d' → (y < y' ∨ (y = y' ∧ (m < m' ∨ (m = m' ∧ d < d')))) →
      (yt < y' ∨ (yt = y' ∧ (mt < m' ∨ (mt = m' ∧ dt ≤ d'))))) :
    LeastGT (IsBoundary u) (dayNumber y m d) (dayNumber yt mt dt) := by
  refine ⟨(hB _).2 ⟨_, _, _, ht, rfl, hQ⟩, (dn_lt_iff h ht).2 hlt, ?_⟩
  intro b' hb' hlt'
  obtain ⟨y', m', d', hd', rfl, hQ'⟩ := (hB _).1 hb'
  exact (dn_le_iff ht hd').2 (hmin y' m' d' hd' hQ' ((dn_lt_iff h hd').1 hlt'))

theorem trunc_century (y m d : Int) (h : IsDate y m d) :
    GreatestLE (IsBoundary .century) (dayNumber y m d) (dayNumber ((y - 1) / 100 * 100 + 1) 1 1) := by
  have ⟨h1, h2, h3, h4⟩ := h
  exact greatest_of_dates (fun _ => Iff.rfl) h (isDate_first _ 1 (by omega)) ⟨rfl, rfl, by omega⟩ (by omega)
    (fun y' m' d' _ ⟨_, _, _⟩ _ => by omega)

theorem next_century (y m d : Int) (h : IsDate y m d) :
    LeastGT (IsBoundary .century) (dayNumber y m d) (dayNumber ((y - 1) / 100 * 100 + 101) 1 1) := by
  have ⟨h1, h2, h3, h4⟩ := h
  exact least_of_dates (fun _ => Iff.rfl) h (isDate_first _ 1 (by omega)) ⟨rfl, rfl, by omega⟩ (by omega)
    (fun y' m' d' _ ⟨_, _, _⟩ _ => by omega)

theorem trunc_year (y m d : Int) (h : IsDate y m d) :
    GreatestLE (IsBoundary .year) (dayNumber y m d) (dayNumber y 1 1) := by
  have ⟨h1, h2, h3, h4⟩ := h
  exact greatest_of_dates (fun _ => Iff.rfl) h (isDate_first _ 1 (by omega)) ⟨rfl, rfl⟩ (by omega)
    (fun y' m' d' _ ⟨_, _⟩ _ => by omega)

theorem next_year (y m d : Int) (h : IsDate y m d) :
    LeastGT (IsBoundary .year) (dayNumber y m d) (dayNumber (y + 1) 1 1) := by
  have ⟨h1, h2, h3, h4⟩ := h
  exact least_of_dates (fun _ => Iff.rfl) h (isDate_first _ 1 (by omega)) ⟨rfl, rfl⟩ (by omega)
    (fun y' m' d' _ ⟨_, _⟩ _ => by omega)

theorem trunc_quarter (y m d : Int) (h : IsDate y m d) :
    GreatestLE (IsBoundary .quarter) (dayNumber y m d) (dayNumber y ((m - 1) / 3 * 3 + 1) 1) := by
  have ⟨h1, h2, h3, h4⟩ := h
  exact greatest_of_dates (fun _ => Iff.rfl) h (isDate_first _ _ (by omega)) ⟨rfl, by omega⟩ (by omega)
    (fun y' m' d' _ ⟨_, _⟩ _ => by omega)

theorem next_quarter (y m d : Int) (h : IsDate y m d) :
    LeastGT (IsBoundary .quarter) (dayNumber y m d)
      (if m ≥ 10 then dayNumber (y + 1) 1 1 else dayNumber y ((m - 1) / 3 * 3 + 4) 1) := by
  have ⟨h1, h2, h3, h4⟩ := h
  split
  · exact least_of_dates (fun _ => Iff.rfl) h (isDate_first _ 1 (by omega)) ⟨rfl, by omega⟩ (by omega)
      (fun y' m' d' hd' ⟨_, _⟩ _ => by have := hd'.1; omega)
  · exact least_of_dates (fun _ => Iff.rfl) h (isDate_first _ _ (by omega)) ⟨rfl, by omega⟩ (by omega)
      (fun y' m' d' _ ⟨_, _⟩ _ => by omega)

theorem trunc_month (y m d : Int) (h : IsDate y m d) :
    GreatestLE (IsBoundary .month) (dayNumber y m d) (dayNumber y m 1) := by
  have ⟨h1, h2, h3, h4⟩ := h
  exact greatest_of_dates (Q := fun _ _ d => d = 1) (fun _ => Iff.rfl) h (isDate_first _ _ (by omega)) rfl (by omega)
    (fun y' m' d' _ _ _ => by omega)

theorem next_month (y m d : Int) (h : IsDate y m d) :
    LeastGT (IsBoundary .month) (dayNumber y m d)
      (if m = 12 then dayNumber (y + 1) 1 1 else dayNumber y (m + 1) 1) := by
  have ⟨h1, h2, h3, h4⟩ := h
  split
  · exact least_of_dates (Q := fun _ _ d => d = 1) (fun _ => Iff.rfl) h (isDate_first _ 1 (by omega)) rfl (by omega)
      (fun y' m' d' hd' _ _ => by have := hd'.1; have := hd'.2.1; omega)
  · exact least_of_dates (Q := fun _ _ d => d = 1) (fun _ => Iff.rfl) h (isDate_first _ _ (by omega)) rfl (by omega)
      (fun y' m' d' _ _ _ => by omega)

/-! ### ISO week, Sunday week: the boundaries are a weekday -/

/-- The two weeks anchored on the weekday (`o` = 3: Monday, `o` = 4: Sunday): every day number is a date, so these are
    residue classes of the day number. -/
theorem weekday_around (u : TUnit) (o : Int) (hB : ∀ b, IsBoundary u b ↔ (b + o) % 7 = 0) (n : Int) :
    GreatestLE (IsBoundary u) n (n - (n + o) % 7) ∧ LeastGT (IsBoundary u) n (n - (n + o) % 7 + 7) := by
  refine ⟨⟨(hB _).2 (by omega), by omega, fun b' hb' _ => ?_⟩, (hB _).2 (by omega), by omega, fun b' hb' _ => ?_⟩
  · have := (hB _).1 hb'; omega
  · have := (hB _).1 hb'; omega

theorem isBoundary_isoWeek (b : Int) : IsBoundary .isoWeek b ↔ (b + 3) % 7 = 0 :=
  ⟨fun ⟨_, _, _, _, _, hw⟩ => hw, fun hw => have ⟨y, m, d, h, e⟩ := exists_date b; ⟨y, m, d, h, e, hw⟩⟩

theorem isBoundary_sundayWeek (b : Int) : IsBoundary .sundayStartWeek b ↔ (b + 4) % 7 = 0 :=
  ⟨fun ⟨_, _, _, _, _, hw⟩ => hw, fun hw => have ⟨y, m, d, h, e⟩ := exists_date b; ⟨y, m, d, h, e, hw⟩⟩

/-! ### Week of the year, week of the month: the boundaries are counted from the start of a period -/

/-- Inside a period `[A, A + L]` (a year or a month, up to the start of the next one) the boundaries are the days a
    whole number of weeks after `A`, and `A + L` itself.  The greatest boundary not after a day `n` of the period starts
    the week of `n`; and as no period is more than three days longer than whole weeks, a week is a full one from its
    fifth day on, so the next boundary is seven days later. -/
theorem anchored_week {P : Int → Prop} {A L : Int} (hL : L % 7 ≤ 3)
    (hP : ∀ b, A ≤ b → b ≤ A + L → (P b ↔ (b - A) % 7 = 0 ∨ b = A + L)) {n : Int} (hn : A ≤ n ∧ n < A + L) :
    GreatestLE P n (n - (n - A) % 7) ∧ ((n - A) % 7 ≥ 4 → LeastGT P n (n - (n - A) % 7 + 7)) := by
  refine ⟨⟨(hP _ (by omega) (by omega)).2 (by omega), by omega, fun b' hb' hle => ?_⟩,
    fun h4 => ⟨(hP _ (by omega) (by omega)).2 (by omega), by omega, fun b' hb' hlt => ?_⟩⟩
  · by_cases c : A ≤ b'
    · have := (hP b' c (by omega)).1 hb'; omega
    · omega
  · by_cases c : b' ≤ A + L
    · have := (hP b' (by omega) c).1 hb'; omega
    · omega

theorem week_boundary (Y b : Int) (h0 : dayNumber Y 1 1 ≤ b) (h1 : b ≤ dayNumber Y 1 1 + (365 + leapI Y)) :
    IsBoundary .week b ↔ (b - dayNumber Y 1 1) % 7 = 0 ∨ b = dayNumber Y 1 1 + (365 + leapI Y) := by
  have hs := jan1_succ Y
  by_cases c : b = dayNumber Y 1 1 + (365 + leapI Y)
  · exact iff_of_true ⟨Y + 1, 1, 1, isDate_first _ 1 (by omega), by omega, by omega⟩ (.inr c)
  · obtain ⟨y, m, d, h, rfl⟩ := exists_date b
    obtain rfl : y = Y := by have := jan1_le_iff h Y; have := jan1_le_iff h (Y + 1); omega
    constructor
    · rintro ⟨y2, m2, d2, h2, e2, hw⟩
      obtain ⟨rfl, -, -⟩ := dayNumber_inj h2 h e2
      exact .inl hw
    · rintro (hw | e)
      · exact ⟨y, m, d, h, rfl, hw⟩
      · exact absurd e c

theorem msw_boundary (y m : Int) (hm : 1 ≤ m ∧ m ≤ 12) (b : Int) (h0 : dayNumber y m 1 ≤ b)
    (h1 : b ≤ dayNumber y m 1 + dim y m) :
    IsBoundary .monthStartWeek b ↔ (b - dayNumber y m 1) % 7 = 0 ∨ b = dayNumber y m 1 + dim y m := by
  have hr := dim_range y m
  by_cases c : b = dayNumber y m 1 + dim y m
  · refine iff_of_true ?_ (.inr c)
    by_cases c12 : m = 12
    · refine ⟨y + 1, 1, 1, isDate_first _ 1 (by omega), ?_, .inl rfl⟩
      have := month_table y m hm
      rw [c, jan1_succ, dayNumber_jan]; unfold dayNumber; omega
    · exact ⟨y, m + 1, 1, isDate_first _ _ (by omega), by rw [c, month_succ y m (by omega)], .inl rfl⟩
  · have hd : IsDate y m (b - dayNumber y m 1 + 1) := ⟨hm.1, hm.2, by omega, by omega⟩
    have e := dn_day y m (b - dayNumber y m 1 + 1)
    constructor
    · rintro ⟨y2, m2, d2, h2, e2, hw⟩
      obtain ⟨-, -, rfl⟩ := dayNumber_inj h2 hd (by omega)
      omega
    · rintro (hw | e')
      · exact ⟨y, m, _, hd, by omega, by omega⟩
      · exact absurd e' c

theorem week_around (y m d : Int) (h : IsDate y m d) :
    GreatestLE (IsBoundary .week) (dayNumber y m d) (dayNumber y m d - (dayNumber y m d - dayNumber y 1 1) % 7) ∧
    ((dayNumber y m d - dayNumber y 1 1) % 7 ≥ 4 → LeastGT (IsBoundary .week) (dayNumber y m d)
      (dayNumber y m d - (dayNumber y m d - dayNumber y 1 1) % 7 + 7)) := by
  have ⟨lo, hi⟩ := in_year h
  have hl := leapI_spec y
  exact anchored_week (by omega) (week_boundary y) ⟨lo, by rw [jan1_succ] at hi; omega⟩

theorem msw_around (y m d : Int) (h : IsDate y m d) :
    GreatestLE (IsBoundary .monthStartWeek) (dayNumber y m d) (dayNumber y m d - (d - 1) % 7) ∧
    ((d - 1) % 7 ≥ 4 → LeastGT (IsBoundary .monthStartWeek) (dayNumber y m d) (dayNumber y m d - (d - 1) % 7 + 7)) := by
  have ⟨h1, h2, h3, h4⟩ := h
  have hr := dim_range y m
  have e : d - 1 = dayNumber y m d - dayNumber y m 1 := by rw [dn_day y m d]; omega
  rw [e]
  exact anchored_week (by omega) (msw_boundary y m ⟨h1, h2⟩) (by omega)

/-! ### The ISO year: the boundaries form an increasing sequence -/

theorem iso_bounds (Y : Int) :
    dayNumber Y 1 1 - 3 ≤ isoYearStart Y ∧ isoYearStart Y ≤ dayNumber Y 1 1 + 3 ∧ (isoYearStart Y + 3) % 7 = 0 := by
  unfold isoYearStart; simp only []; rw [dn_day Y 1 4]; omega

theorem iso_mono_le (Y Y' : Int) (h : Y ≤ Y') : isoYearStart Y ≤ isoYearStart Y' := by
  by_cases c : Y = Y'
  · exact c ▸ Int.le_refl _
  · have := iso_bounds Y; have := iso_bounds Y'; have := jan1_mono Y Y' h; omega

theorem iso_lt_rev (Y Y' : Int) (h : isoYearStart Y < isoYearStart Y') : Y < Y' :=
  Int.not_le.1 fun c => by have := iso_mono_le Y' Y c; omega

theorem isBoundary_isoYear (b : Int) : IsBoundary .isoYear b ↔ ∃ Y, b = isoYearStart Y := by
  constructor
  · rintro ⟨y, m, d, _, _, hw, Y, h1, h2⟩
    exact ⟨Y, by unfold isoYearStart; simp only []; omega⟩
  · rintro ⟨Y, rfl⟩
    obtain ⟨y, m, d, h, e⟩ := exists_date (isoYearStart Y)
    exact ⟨y, m, d, h, e, (iso_bounds Y).2.2, Y, by unfold isoYearStart; simp only []; omega⟩

theorem between {P : Int → Prop} {s : Int → Int} (hs : ∀ Y Y', Y ≤ Y' → s Y ≤ s Y') (hP : ∀ b, P b ↔ ∃ Y, b = s Y)
    {n Y : Int} (h : s Y ≤ n ∧ n < s (Y + 1)) : GreatestLE P n (s Y) ∧ LeastGT P n (s (Y + 1)) := by
  refine ⟨⟨(hP _).2 ⟨Y, rfl⟩, h.1, fun b' hb' hle => ?_⟩, (hP _).2 ⟨Y + 1, rfl⟩, h.2, fun b' hb' hlt => ?_⟩
  · obtain ⟨Y', rfl⟩ := (hP _).1 hb'
    by_cases c : Y' ≤ Y
    · exact hs _ _ c
    · have := hs (Y + 1) Y' (by omega); omega
  · obtain ⟨Y', rfl⟩ := (hP _).1 hb'
    by_cases c : Y + 1 ≤ Y'
    · exact hs _ _ c
    · have := hs Y' Y (by omega); omega

theorem iso_around {n Y : Int} (h : isoYearStart Y ≤ n ∧ n < isoYearStart (Y + 1)) :
    GreatestLE (IsBoundary .isoYear) n (isoYearStart Y) ∧ LeastGT (IsBoundary .isoYear) n (isoYearStart (Y + 1)) :=
  between iso_mono_le isBoundary_isoYear h

/-- The ISO year of a date starts in the last days of the year before, or in the first days of the date's year or of
    the next. -/
theorem trunc_isoYear (y m d : Int) (h : IsDate y m d) :
    GreatestLE (IsBoundary .isoYear) (dayNumber y m d)
      (if isoYearStart (y + 1) ≤ dayNumber y m d then isoYearStart (y + 1)
       else if isoYearStart y ≤ dayNumber y m d then isoYearStart y else isoYearStart (y - 1)) := by
  have ⟨hlo, hhi⟩ := in_year h
  have b0 := iso_bounds (y - 1)
  have b3 := iso_bounds (y + 1 + 1)
  have j0 := jan1_mono (y - 1) y (by omega)
  have j2 := jan1_mono (y + 1) (y + 1 + 1) (by omega)
  split
  · exact (iso_around ⟨‹_›, by omega⟩).1
  · split
    · exact (iso_around ⟨‹_›, by omega⟩).1
    · exact (iso_around (Y := y - 1) ⟨by omega, by rw [Int.sub_add_cancel]; omega⟩).1

theorem second_half (y m d : Int) (h : IsDate y m d) (hm : m ≥ 7) : dayNumber y 1 1 + 181 ≤ dayNumber y m d := by
  obtain ⟨h1, h2, h3, h4⟩ := h
  have hl := leapI_spec y
  have := month_table y m ⟨h1, h2⟩
  rw [dayNumber_jan]; unfold dayNumber
  omega

theorem next_isoYear (y m d : Int) (h : IsDate y m d) (hm : m ≥ 7)
    (hgt : dayNumber y m d < isoYearStart (y + 1)) :
    LeastGT (IsBoundary .isoYear) (dayNumber y m d) (isoYearStart (y + 1)) := by
  have s := second_half y m d h hm
  have b1 := iso_bounds y
  exact (iso_around ⟨by omega, hgt⟩).2

end USpec

open USpec

theorem truncOf_greatest (u : TUnit) (y m d : Int) (h : IsDate y m d) :
    GreatestLE (IsBoundary u) (dayNumber y m d) (truncOf u (y, m, d) (dayNumber y m d)) := by
  cases u
  · exact trunc_century y m d h
  · exact trunc_year y m d h
  · exact trunc_isoYear y m d h
  · exact trunc_quarter y m d h
  · exact trunc_month y m d h
  · exact (week_around y m d h).1
  · exact (weekday_around _ 3 isBoundary_isoWeek _).1
  · exact (msw_around y m d h).1
  · exact ⟨⟨y, m, d, h, rfl, trivial⟩, Int.le_refl _, fun _ _ hle => hle⟩
  · exact (weekday_around _ 4 isBoundary_sundayWeek _).1
  · exact ⟨⟨y, m, d, h, rfl, trivial⟩, Int.le_refl _, fun _ _ hle => hle⟩
  · exact ⟨⟨y, m, d, h, rfl, trivial⟩, Int.le_refl _, fun _ _ hle => hle⟩

theorem truncOf_idem (u : TUnit) (y m d y' m' d' : Int) (h : IsDate y m d) (h' : IsDate y' m' d')
    (hb : dayNumber y' m' d' = truncOf u (y, m, d) (dayNumber y m d)) :
    truncOf u (y', m', d') (dayNumber y' m' d') = dayNumber y' m' d' :=
  greatest_unique (truncOf_greatest u y' m' d' h') (hb ▸ greatest_idem (truncOf_greatest u y m d h))

theorem truncOf_mono (u : TUnit) (y m d y' m' d' : Int) (h : IsDate y m d) (h' : IsDate y' m' d')
    (hle : dayNumber y m d ≤ dayNumber y' m' d') :
    truncOf u (y, m, d) (dayNumber y m d) ≤ truncOf u (y', m', d') (dayNumber y' m' d') :=
  greatest_mono hle (truncOf_greatest u y m d h) (truncOf_greatest u y' m' d' h')

namespace USpec

/-! ### Rounding: every `roundOf u` is an `if` between the next boundary and the truncation -/

theorem first_inj {y m d Y M : Int} (h : IsDate y m d) (hM : 1 ≤ M ∧ M ≤ 12) (e : dayNumber Y M 1 = dayNumber y m d) :
    Y = y ∧ M = m ∧ d = 1 := by
  have := dayNumber_inj (isDate_first Y M hM) h e
  omega

theorem adj_ite {P : Int → Prop} {n T X : Int} {c : Prop} [Decidable c] (hx : c → X = T ∨ LeastGT P n X) :
    (if c then X else T) = T ∨ LeastGT P n (if c then X else T) := by
  by_cases hc : c
  · rw [if_pos hc]; exact hx hc
  · rw [if_neg hc]; exact Or.inl rfl

theorem fix_ite {n T X : Int} {c : Prop} [Decidable c] (hT : T = n) (hx : c → X = n) :
    (if c then X else T) = n := by
  by_cases hc : c
  · rw [if_pos hc]; exact hx hc
  · rw [if_neg hc]; exact hT

theorem ite_ne_iff {T X : Int} {c : Prop} [Decidable c] (hx : c → X ≠ T) : (if c then X else T) ≠ T ↔ c := by
  by_cases hc : c
  · rw [if_pos hc]; exact ⟨fun _ => hc, fun _ => hx hc⟩
  · rw [if_neg hc]; exact ⟨fun e => absurd rfl e, fun e => absurd e hc⟩

theorem mono_ite {P : Int → Prop} {n n' T T' X X' : Int} {c c' : Prop} [Decidable c] [Decidable c']
    (hnn : n ≤ n') (hT : T = T') (hT' : T' ≤ n') (hX : c → LeastGT P n X) (hX' : c' → LeastGT P n' X')
    (hcc : c → c') : (if c then X else T) ≤ (if c' then X' else T') := by
  by_cases hc : c
  · have hc' := hcc hc
    rw [if_pos hc, if_pos hc']
    exact (hX hc).2.2 X' (hX' hc').1 (Int.lt_of_le_of_lt hnn (hX' hc').2.1)
  · rw [if_neg hc]
    by_cases hc' : c'
    · rw [if_pos hc']; have := (hX' hc').2.1; omega
    · rw [if_neg hc']; omega

theorem week_ite_mono {n n' b b' : Int} (hb : b = b') (hnn : n ≤ n') :
    (if n - b ≥ 4 then b + 7 else b) ≤ (if n' - b' ≥ 4 then b' + 7 else b') := by
  subst hb
  by_cases c : n - b ≥ 4
  · rw [if_pos c, if_pos (show n' - b ≥ 4 by omega)]; omega
  · rw [if_neg c]
    by_cases c' : n' - b ≥ 4
    · rw [if_pos c']; omega
    · rw [if_neg c']; omega

end USpec

theorem roundOf_adjacent (u : TUnit) (y m d : Int) (h : IsDate y m d) :
    roundOf u (y, m, d) (dayNumber y m d) = truncOf u (y, m, d) (dayNumber y m d) ∨
    LeastGT (IsBoundary u) (dayNumber y m d) (roundOf u (y, m, d) (dayNumber y m d)) := by
  cases u <;> simp only [roundOf, truncOf, nextStartOf]
  · exact adj_ite (fun _ => Or.inr (next_century y m d h))
  · exact adj_ite (fun _ => Or.inr (next_year y m d h))
  · refine adj_ite (fun hm => ?_)
    by_cases c : isoYearStart (y + 1) ≤ dayNumber y m d
    · left; rw [if_pos c]
    · right; exact next_isoYear y m d h hm (by omega)
  · exact adj_ite (fun _ => Or.inr (next_quarter y m d h))
  · exact adj_ite (fun _ => Or.inr (next_month y m d h))
  · exact adj_ite (fun c => Or.inr ((week_around y m d h).2 (by omega)))
  · exact adj_ite (fun _ => Or.inr (weekday_around _ 3 isBoundary_isoWeek _).2)
  · exact adj_ite (fun c => Or.inr ((msw_around y m d h).2 (by omega)))
  · exact Or.inl trivial
  · exact adj_ite (fun _ => Or.inr (weekday_around _ 4 isBoundary_sundayWeek _).2)
  · exact Or.inl trivial
  · exact Or.inl trivial

/-- A day already on a boundary is returned unchanged: it is its own truncation, which no midpoint test passes. -/
theorem roundOf_fixed (u : TUnit) (y m d : Int) (h : IsDate y m d) (hb : IsBoundary u (dayNumber y m d)) :
    roundOf u (y, m, d) (dayNumber y m d) = dayNumber y m d := by
  have hT : truncOf u (y, m, d) (dayNumber y m d) = dayNumber y m d :=
    greatest_unique (truncOf_greatest u y m d h) ⟨hb, Int.le_refl _, fun _ _ hle => hle⟩
  have ⟨h1, h2, h3, h4⟩ := h
  cases u <;> simp only [roundOf, truncOf, nextStartOf] at hT ⊢
  case isoYear =>
    refine fix_ite hT (fun hm => ?_)
    obtain ⟨Y, e⟩ := (isBoundary_isoYear _).1 hb
    have ⟨hlo, hhi⟩ := in_year h
    have s := second_half y m d h hm
    have b1 := iso_bounds y
    have b3 := iso_bounds (y + 2)
    have j2 := jan1_mono (y + 1) (y + 2) (by omega)
    have a1 : y < Y := iso_lt_rev _ _ (by omega)
    have a2 : Y < y + 2 := iso_lt_rev _ _ (by omega)
    have : Y = y + 1 := by omega
    subst this; exact e.symm
  case century => exact fix_ite hT (fun c => absurd c (by have := first_inj h (by omega) hT; omega))
  case year => exact fix_ite hT (fun c => absurd c (by have := first_inj h (by omega) hT; omega))
  case quarter => exact fix_ite hT (fun c => absurd c (by have := first_inj h (by omega) hT; omega))
  case month => exact fix_ite hT (fun c => absurd c (by have := first_inj h (by omega) hT; omega))
  all_goals exact fix_ite hT (fun c => absurd c (by omega))

theorem truncOf_le_roundOf (u : TUnit) (y m d : Int) (h : IsDate y m d) :
    truncOf u (y, m, d) (dayNumber y m d) ≤ roundOf u (y, m, d) (dayNumber y m d) := by
  have g := (truncOf_greatest u y m d h).2.1
  rcases roundOf_adjacent u y m d h with e | l
  · omega
  · have := l.2.1; omega

theorem USpec.mono_generic (u : TUnit) (y m d y' m' d' : Int) (h : IsDate y m d) (h' : IsDate y' m' d')
    (hle : dayNumber y m d ≤ dayNumber y' m' d')
    (hsame : truncOf u (y, m, d) (dayNumber y m d) = truncOf u (y', m', d') (dayNumber y' m' d') →
      roundOf u (y, m, d) (dayNumber y m d) ≤ roundOf u (y', m', d') (dayNumber y' m' d')) :
    roundOf u (y, m, d) (dayNumber y m d) ≤ roundOf u (y', m', d') (dayNumber y' m' d') := by
  have g := truncOf_greatest u y m d h
  have g' := truncOf_greatest u y' m' d' h'
  have tm := truncOf_mono u y m d y' m' d' h h' hle
  have tr' := truncOf_le_roundOf u y' m' d' h'
  by_cases e : truncOf u (y, m, d) (dayNumber y m d) = truncOf u (y', m', d') (dayNumber y' m' d')
  · exact hsame e
  · have hgt : dayNumber y m d < truncOf u (y', m', d') (dayNumber y' m' d') := by
      apply Decidable.byContradiction; intro c
      have := g.2.2 _ g'.1 (by omega); omega
    rcases roundOf_adjacent u y m d h with e1 | l
    · omega
    · have := l.2.2 _ g'.1 hgt; omega

theorem roundOf_mono (u : TUnit) (hu : u ≠ .isoYear) (y m d y' m' d' : Int) (h : IsDate y m d) (h' : IsDate y' m' d')
    (hle : dayNumber y m d ≤ dayNumber y' m' d') :
    roundOf u (y, m, d) (dayNumber y m d) ≤ roundOf u (y', m', d') (dayNumber y' m' d') := by
  apply mono_generic u y m d y' m' d' h h' hle
  intro hT
  have ⟨h1, h2, h3, h4⟩ := h
  have ⟨h1', h2', h3', h4'⟩ := h'
  have hT' := (truncOf_greatest u y' m' d' h').2.1
  have hle' := hle
  rw [dn_le_iff h h'] at hle'
  cases u <;> simp only [roundOf, truncOf, nextStartOf] at hT hT' ⊢
  case isoYear => exact absurd rfl hu
  case century =>
    have := first_inj (isDate_first _ 1 (by omega)) (by omega) hT
    exact mono_ite hle hT hT' (fun _ => next_century y m d h) (fun _ => next_century y' m' d' h') (by omega)
  case year =>
    have := first_inj (isDate_first _ 1 (by omega)) (by omega) hT
    exact mono_ite hle hT hT' (fun _ => next_year y m d h) (fun _ => next_year y' m' d' h') (by omega)
  case quarter =>
    have := first_inj (isDate_first _ _ (by omega)) (by omega) hT
    exact mono_ite hle hT hT' (fun _ => next_quarter y m d h) (fun _ => next_quarter y' m' d' h') (by omega)
  case month =>
    have := first_inj (isDate_first _ _ (by omega)) (by omega) hT
    exact mono_ite hle hT hT' (fun _ => next_month y m d h) (fun _ => next_month y' m' d' h') (by omega)
  case day => exact hle
  case hour => exact hle
  case minute => exact hle
  all_goals exact week_ite_mono hT hle

theorem roundOf_midpoints (y m d : Int) (h : IsDate y m d) :
    let n := dayNumber y m d
    (roundOf .century (y, m, d) n ≠ truncOf .century (y, m, d) n ↔ (y - 1) % 100 + 1 ≥ 51) ∧   -- year 51 of the century
    (roundOf .year (y, m, d) n ≠ truncOf .year (y, m, d) n ↔ m ≥ 7) ∧                            -- 1 July
    (roundOf .quarter (y, m, d) n ≠ truncOf .quarter (y, m, d) n ↔
        ((m - 1) % 3 = 2 ∨ ((m - 1) % 3 = 1 ∧ d ≥ 16))) ∧                                        -- 16th of the 2nd month
    (roundOf .month (y, m, d) n ≠ truncOf .month (y, m, d) n ↔ d ≥ 16) ∧                         -- the 16th
    (roundOf .isoWeek (y, m, d) n ≠ truncOf .isoWeek (y, m, d) n ↔ n - truncOf .isoWeek (y, m, d) n ≥ 4) ∧
    (roundOf .sundayStartWeek (y, m, d) n ≠ truncOf .sundayStartWeek (y, m, d) n ↔
        n - truncOf .sundayStartWeek (y, m, d) n ≥ 4) := by                                       -- fifth day of the week
  intro n
  have ne_of {T X : Int} (a : T ≤ n) (b : n < X) : X ≠ T := by omega
  refine ⟨?_, ?_, ?_, ?_, ?_, ?_⟩
  · exact ite_ne_iff (fun _ => ne_of (trunc_century y m d h).2.1 (next_century y m d h).2.1)
  · exact ite_ne_iff (fun _ => ne_of (trunc_year y m d h).2.1 (next_year y m d h).2.1)
  · exact ite_ne_iff (fun _ => ne_of (trunc_quarter y m d h).2.1 (next_quarter y m d h).2.1)
  · exact ite_ne_iff (fun _ => ne_of (trunc_month y m d h).2.1 (next_month y m d h).2.1)
  · exact ite_ne_iff (fun _ => ne_of (weekday_around _ 3 isBoundary_isoWeek n).1.2.1 (weekday_around _ 3 isBoundary_isoWeek n).2.2.1)
  · exact ite_ne_iff (fun _ => ne_of (weekday_around _ 4 isBoundary_sundayWeek n).1.2.1 (weekday_around _ 4 isBoundary_sundayWeek n).2.2.1)

end SqlDt.Lemmas
