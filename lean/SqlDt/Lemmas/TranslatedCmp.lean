/-
  Lemmas/TranslatedCmp (hand-written, stable): the mixed comparison impls –
  `Time`/`IntervalDT` in both directions (C12), `Timestamp` vs `Date` (C17) and the `==` impls between the Oracle-style
  date and `Timestamp` / `Date` (C17).  Each translated body equals "comparison of the microsecond counts, a date read as
  its midnight" for ALL arguments of the parameter types.  (`partial_cmp` of the four Oracle pairs calls the DERIVED
  `Timestamp::partial_cmp`, which the translator does not resolve; those four stay tied by the correspondence only.)
-/
import SqlDt.Lemmas.TranslatedSafe
set_option linter.unusedVariables false
namespace SqlDt.TrEq

@[tr_eq] theorem Time.eq_interval_dt_eq (t i : Int) (ht0 : -9223372036854775808 ≤ t) (ht1 : t ≤ 9223372036854775807)
    (hi0 : -9223372036854775808 ≤ i) (hi1 : i ≤ 9223372036854775807) :
    Tr.Time.eq_interval_dt t i = decide (t = i) := by
  unfold Tr.Time.eq_interval_dt
  tr_auto

@[tr_eq] theorem Time.partial_cmp_interval_dt_eq (t i : Int) (ht0 : -9223372036854775808 ≤ t) (ht1 : t ≤ 9223372036854775807)
    (hi0 : -9223372036854775808 ≤ i) (hi1 : i ≤ 9223372036854775807) :
    Tr.Time.partial_cmp_interval_dt t i = some (Tr.cmpInt t i) := by
  unfold Tr.Time.partial_cmp_interval_dt
  tr_auto

@[tr_eq] theorem IntervalDT.eq_time_eq (i t : Int) (hi0 : -9223372036854775808 ≤ i) (hi1 : i ≤ 9223372036854775807)
    (ht0 : -9223372036854775808 ≤ t) (ht1 : t ≤ 9223372036854775807) :
    Tr.IntervalDT.eq_time i t = decide (i = t) := by
  unfold Tr.IntervalDT.eq_time
  tr_auto

@[tr_eq] theorem IntervalDT.partial_cmp_time_eq (i t : Int) (hi0 : -9223372036854775808 ≤ i) (hi1 : i ≤ 9223372036854775807)
    (ht0 : -9223372036854775808 ≤ t) (ht1 : t ≤ 9223372036854775807) :
    Tr.IntervalDT.partial_cmp_time i t = some (Tr.cmpInt i t) := by
  unfold Tr.IntervalDT.partial_cmp_time
  tr_auto

@[tr_eq] theorem Timestamp.eq_date_eq (ts d : Int) (hts0 : -9223372036854775808 ≤ ts) (hts1 : ts ≤ 9223372036854775807)
    (hd0 : -2147483648 ≤ d) (hd1 : d ≤ 2147483647) :
    Tr.Timestamp.eq_date ts d = decide (ts = Timestamp.new d 0) := by
  unfold Tr.Timestamp.eq_date
  tr_auto

@[tr_eq] theorem Timestamp.partial_cmp_date_eq (ts d : Int) (hts0 : -9223372036854775808 ≤ ts) (hts1 : ts ≤ 9223372036854775807)
    (hd0 : -2147483648 ≤ d) (hd1 : d ≤ 2147483647) :
    Tr.Timestamp.partial_cmp_date ts d = some (Tr.cmpInt ts (Timestamp.new d 0)) := by
  unfold Tr.Timestamp.partial_cmp_date
  tr_auto

@[tr_eq] theorem Timestamp.eq_oracle_date_eq (ts od : Int) (hts0 : -9223372036854775808 ≤ ts) (hts1 : ts ≤ 9223372036854775807)
    (ho0 : -9223372036854775808 ≤ od) (ho1 : od ≤ 9223372036854775807) :
    Tr.Timestamp.eq_oracle_date ts od = decide (ts = od) := by
  unfold Tr.Timestamp.eq_oracle_date
  tr_auto

@[tr_eq] theorem OracleDate.eq_timestamp_eq (od ts : Int) (ho0 : -9223372036854775808 ≤ od) (ho1 : od ≤ 9223372036854775807)
    (hts0 : -9223372036854775808 ≤ ts) (hts1 : ts ≤ 9223372036854775807) :
    Tr.OracleDate.eq_timestamp od ts = decide (od = ts) := by
  unfold Tr.OracleDate.eq_timestamp
  tr_auto

@[tr_eq] theorem Date.eq_oracle_date_eq (d od : Int) (hd0 : -2147483648 ≤ d) (hd1 : d ≤ 2147483647)
    (ho0 : -9223372036854775808 ≤ od) (ho1 : od ≤ 9223372036854775807) :
    Tr.Date.eq_oracle_date d od = decide (Timestamp.new d 0 = od) := by
  unfold Tr.Date.eq_oracle_date
  tr_auto

@[tr_eq] theorem OracleDate.eq_date_eq (od d : Int) (ho0 : -9223372036854775808 ≤ od) (ho1 : od ≤ 9223372036854775807)
    (hd0 : -2147483648 ≤ d) (hd1 : d ≤ 2147483647) :
    Tr.OracleDate.eq_date od d = decide (od = Timestamp.new d 0) := by
  unfold Tr.OracleDate.eq_date
  tr_auto

end SqlDt.TrEq

namespace SqlDt.TrSafe

@[tr_safe] theorem Time.eq_interval_dt_safe (t i : Int) : Tr.Time.eq_interval_dt_safe t i := by
  unfold Tr.Time.eq_interval_dt_safe; tr_safe_auto
@[tr_safe] theorem Time.partial_cmp_interval_dt_safe (t i : Int) : Tr.Time.partial_cmp_interval_dt_safe t i := by
  unfold Tr.Time.partial_cmp_interval_dt_safe; tr_safe_auto
@[tr_safe] theorem IntervalDT.eq_time_safe (i t : Int) : Tr.IntervalDT.eq_time_safe i t := by
  unfold Tr.IntervalDT.eq_time_safe; tr_safe_auto
@[tr_safe] theorem IntervalDT.partial_cmp_time_safe (i t : Int) : Tr.IntervalDT.partial_cmp_time_safe i t := by
  unfold Tr.IntervalDT.partial_cmp_time_safe; tr_safe_auto
@[tr_safe] theorem Timestamp.eq_date_safe (ts d : Int) (hts : isValidTimestamp ts) (hd : isValidDate d) :
    Tr.Timestamp.eq_date_safe ts d := by
  unfold Tr.Timestamp.eq_date_safe; tr_safe_auto
@[tr_safe] theorem Timestamp.partial_cmp_date_safe (ts d : Int) (hts : isValidTimestamp ts) (hd : isValidDate d) :
    Tr.Timestamp.partial_cmp_date_safe ts d := by
  unfold Tr.Timestamp.partial_cmp_date_safe; tr_safe_auto
@[tr_safe] theorem Timestamp.eq_oracle_date_safe (ts od : Int) : Tr.Timestamp.eq_oracle_date_safe ts od := by
  unfold Tr.Timestamp.eq_oracle_date_safe; tr_safe_auto
@[tr_safe] theorem OracleDate.eq_timestamp_safe (od ts : Int) : Tr.OracleDate.eq_timestamp_safe od ts := by
  unfold Tr.OracleDate.eq_timestamp_safe; tr_safe_auto
@[tr_safe] theorem Date.eq_oracle_date_safe (d od : Int) (hd : isValidDate d) : Tr.Date.eq_oracle_date_safe d od := by
  unfold Tr.Date.eq_oracle_date_safe; tr_safe_auto
@[tr_safe] theorem OracleDate.eq_date_safe (od d : Int) (hd : isValidDate d) : Tr.OracleDate.eq_date_safe od d := by
  unfold Tr.OracleDate.eq_date_safe; tr_safe_auto

end SqlDt.TrSafe
