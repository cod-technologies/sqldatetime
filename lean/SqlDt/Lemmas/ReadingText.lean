/-
  Lemmas/ReadingText: the leaf parsers of the crate on the text of ONE lexeme of Spec/Reading followed by arbitrary text.
  First runs of ASCII digits – what `eat_digits` / `eat_whitespaces` do on them, and that the zero-padded renderings of
  Spec/Render are read back to their value – then blanks, signed digit runs (with the "stops here" condition of
  `Delimited`), fraction digits, weekday digit, years.
-/
import SqlDt.Spec.Reading
import SqlDt.Props.C06
import SqlDt.Lemmas.FloatFrac
import SqlDt.Props.C18
namespace SqlDt.Lemmas
open SqlDt Gen Spec Parser

/-- `rest` is empty or begins with a byte that is no digit: a digit run in front of it ends there. -/
def NoDigitHead (rest : Bytes) : Prop := ∀ c ∈ rest.head?, isDigitB c = false

theorem takeWhile_noDigitHead (rest : Bytes) (j : Nat) (h : NoDigitHead rest) : (rest.take j).takeWhile isDigitB = [] := by
  cases rest with
  | nil => simp
  | cons c r =>
    cases j with
    | zero => simp
    | succ j =>
      have := h c (by simp)
      simp [List.take_succ_cons, this]

theorem digs_head_ne (c : Nat) (r : Bytes) (hd : Digs (c :: r)) : c ≠ B '+' ∧ c ≠ B '-' ∧ isWhitespaceB c = false := by
  have := hd c (by simp)
  simp [isDigitB] at this
  refine ⟨?_, ?_, ?_⟩
  · show c ≠ 43; omega
  · show c ≠ 45; omega
  · simp [isWhitespaceB]; omega

theorem eatWs_digs (ds rest : Bytes) (hne : ds ≠ []) (hd : Digs ds) : eatWhitespaces (ds ++ rest) = ds ++ rest := by
  cases ds with
  | nil => exact absurd rfl hne
  | cons c r =>
    obtain ⟨_, _, h3⟩ := digs_head_ne c r hd
    simp [eatWhitespaces, h3]

theorem eatWs_blank (s : Bytes) : eatWhitespaces (32 :: s) = eatWhitespaces s := by
  simp [eatWhitespaces, isWhitespaceB]

theorem eatWs_nonws (c : Nat) (s : Bytes) (h : isWhitespaceB c = false) : eatWhitespaces (c :: s) = c :: s := by
  simp [eatWhitespaces, h]

theorem foldDigits_pad (w n : Nat) (h : n < 100000000000) : foldDigits (pad w n) = (n : Int) := by
  rw [← writeU32_eq_pad n w h]; exact C06.foldDigits_writeU32 n w h

/-- `ds` is a non-empty run of at most `k` ASCII digits with value `n`. -/
structure Run (ds : Bytes) (k : Nat) (n : Int) : Prop where
  ne : ds ≠ []
  digs : Digs ds
  len : ds.length ≤ k
  val : foldDigits ds = n

theorem spaces_succ (b : Nat) : spaces (b + 1) = 32 :: spaces b := by simp [spaces, List.replicate_succ]

theorem eatWs_spaces (b : Nat) (s : Bytes) : eatWhitespaces (spaces b ++ s) = eatWhitespaces s := by
  induction b with
  | zero => simp [spaces]
  | succ b ih => rw [spaces_succ, List.cons_append, eatWs_blank, ih]

theorem eatWs_spaces_only (b : Nat) : eatWhitespaces (spaces b) = [] := by
  have := eatWs_spaces b []
  simpa [eatWhitespaces] using this

theorem eatWs_idem (s : Bytes) : eatWhitespaces (eatWhitespaces s) = eatWhitespaces s := by
  unfold eatWhitespaces
  induction s with
  | nil => rfl
  | cons c r ih =>
    by_cases h : isWhitespaceB c = true
    · simp [h, ih]
    · simp [h]

theorem eatWs_nil : eatWhitespaces [] = [] := rfl

theorem noDigitHead_iff (rest : Bytes) : NoDigitHead rest ↔ nextIsDigit rest = false := by
  cases rest with
  | nil => simp [NoDigitHead, nextIsDigit]
  | cons c r => simp [NoDigitHead, nextIsDigit]

theorem nextIsDigit_append_spaces (a : Bytes) (tb : Nat) : nextIsDigit (a ++ spaces tb) = nextIsDigit a := by
  cases a with
  | cons c r => rfl
  | nil =>
    cases tb with
    | zero => rfl
    | succ tb => rw [List.nil_append, spaces_succ]; rfl

/-- Reading at most `k` digits stops after `ds`: the budget is used up, or no digit follows. -/
def Stops (ds rest : Bytes) (k : Nat) : Prop := ds.length = k ∨ NoDigitHead rest

theorem takeWhile_all (ds : Bytes) (hd : Digs ds) : ds.takeWhile isDigitB = ds := by
  induction ds with
  | nil => rfl
  | cons c r ih =>
    have hc := hd c (by simp)
    simp only [List.takeWhile_cons, hc, ↓reduceIte]
    rw [ih (fun d hd' => hd d (by simp [hd']))]

theorem eatDigits_stop (ds rest : Bytes) (k : Nat) (hd : Digs ds) (hl : ds.length ≤ k) (hs : Stops ds rest k) :
    eatDigits (ds ++ rest) k = (ds, rest) := by
  have h1 : ((ds ++ rest).take k).takeWhile isDigitB = ds := by
    rcases hs with h | h
    · rw [← h, List.take_left, takeWhile_all ds hd]
    · rw [List.take_append, List.take_of_length_le hl, List.takeWhile_append_of_pos hd, takeWhile_noDigitHead _ _ h,
        List.append_nil]
  simp [eatDigits, h1]

/-- The digits of a `Lex.num`: `z` leading zeros, then the decimal of `n`. -/
def numDigits (z n : Nat) : Bytes := List.replicate z 48 ++ digits n

theorem numDigits_length (z n : Nat) : (numDigits z n).length = numWidth z n := by
  simp [numDigits, numWidth]

theorem pad_zero (n : Nat) : pad 0 n = digits n := by simp [pad]

theorem run_numDigits (z n k : Nat) (hw : numWidth z n ≤ k) (hn : n < 10 ^ 9) : Run (numDigits z n) k (n : Int) := by
  refine ⟨?_, ?_, ?_, ?_⟩
  · intro hc
    simp [numDigits] at hc
    exact digits_ne_nil n hc.2
  · intro d hd
    simp only [numDigits, List.mem_append, List.mem_replicate] at hd
    rcases hd with ⟨_, rfl⟩ | hd
    · decide
    · exact digits_digs n d hd
  · rw [numDigits_length]; exact hw
  · unfold numDigits
    rw [C06.foldDigits_zeros, ← pad_zero, foldDigits_pad 0 n (by omega)]

theorem sign_none_text : Sign.none.text = [] := rfl
theorem sign_plus_text : Sign.plus.text = [43] := rfl
theorem sign_minus_text : Sign.minus.text = [45] := rfl

theorem parseNumber_lex {ds : Bytes} {k : Nat} {n : Int} (h : Run ds k n) (s : Sign) (rest : Bytes)
    (hs : Stops ds rest k) :
    parseNumber (s.text ++ (ds ++ rest)) k = .ok (isMinus s, (if isMinus s = true then -n else n), rest) := by
  have he := eatDigits_stop ds rest k h.digs h.len hs
  obtain ⟨c, r, hds⟩ : ∃ c r, ds = c :: r := by
    cases ds with
    | nil => exact absurd rfl h.ne
    | cons c r => exact ⟨c, r, rfl⟩
  have hemp : ds.isEmpty = false := by rw [hds]; rfl
  cases s with
  | none =>
    -- no sign: the first digit is neither '+' nor '-'
    obtain ⟨h1, h2, _⟩ := digs_head_ne c r (hds ▸ h.digs)
    rw [sign_none_text, List.nil_append]
    rw [hds, List.cons_append] at he ⊢
    simp only [parseNumber, h1, h2, ↓reduceIte, he, ← hds, hemp, h.val]
    rfl
  | plus =>
    simp only [sign_plus_text, List.cons_append, List.nil_append, parseNumber, show (43 : Nat) = B '+' from rfl,
      ↓reduceIte, he, hemp, h.val]
    rfl
  | minus =>
    simp only [sign_minus_text, List.cons_append, List.nil_append, parseNumber, show (45 : Nat) = B '-' from rfl,
      show ¬ (B '-' = B '+') by decide, ↓reduceIte, he, hemp, h.val]
    rfl

theorem eatWs_signed {ds : Bytes} {k : Nat} {n : Int} (h : Run ds k n) (s : Sign) (rest : Bytes) :
    eatWhitespaces (s.text ++ (ds ++ rest)) = s.text ++ (ds ++ rest) := by
  cases s with
  | none => simpa [sign_none_text] using eatWs_digs ds rest h.ne h.digs
  | plus => exact eatWs_nonws 43 _ (by decide)
  | minus => exact eatWs_nonws 45 _ (by decide)

theorem signed_nonempty {ds : Bytes} {k : Nat} {n : Int} (h : Run ds k n) (s : Sign) (rest : Bytes) :
    (s.text ++ (ds ++ rest)).isEmpty = false := by
  cases s with
  | none =>
    cases ds with
    | nil => exact absurd rfl h.ne
    | cons c r => rfl
  | plus => rfl
  | minus => rfl

/-- The text of a `Lex.frac`: the digit values as ASCII digits. -/
def fracBytes (ds : List Nat) : Bytes := ds.map (· + 48)

theorem fracBytes_digs (ds : List Nat) (h : ds.all (· ≤ 9) = true) : Digs (fracBytes ds) := by
  intro d hd
  simp only [fracBytes, List.mem_map] at hd
  obtain ⟨x, hx, rfl⟩ := hd
  have := List.all_eq_true.1 h x hx
  simp at this
  simp [isDigitB]; omega

theorem foldl_frac (ds : List Nat) : ∀ (acc : Nat),
    (fracBytes ds).foldl (fun (a : Int) d => a * 10 + (Int.ofNat d - 48)) (acc : Int) =
      ((ds.foldl (fun a d => a * 10 + d) acc : Nat) : Int) := by
  induction ds with
  | nil => intro acc; rfl
  | cons d r ih =>
    intro acc
    simp only [fracBytes, List.map_cons, List.foldl_cons] at ih ⊢
    have : (acc : Int) * 10 + (Int.ofNat (d + 48) - 48) = ((acc * 10 + d : Nat) : Int) := by
      simp only [Int.ofNat_eq_natCast]; omega
    rw [this]; exact ih _

theorem foldDigits_frac (ds : List Nat) :
    foldDigits (fracBytes ds) = ((ds.foldl (fun a d => a * 10 + d) 0 : Nat) : Int) := by
  unfold foldDigits; exact foldl_frac ds 0

theorem foldl_frac_lt (ds : List Nat) (h : ds.all (· ≤ 9) = true) : ∀ (acc : Nat),
    ds.foldl (fun a d => a * 10 + d) acc < (acc + 1) * 10 ^ ds.length := by
  induction ds with
  | nil => intro acc; simp
  | cons d r ih =>
    intro acc
    have hd : d ≤ 9 := by
      have := List.all_eq_true.1 h d (by simp)
      simpa using this
    have hr : r.all (· ≤ 9) = true := by
      rw [List.all_eq_true] at h ⊢; intro x hx; exact h x (by simp [hx])
    have := ih hr (acc * 10 + d)
    simp only [List.foldl_cons, List.length_cons]
    calc _ < (acc * 10 + d + 1) * 10 ^ r.length := this
      _ ≤ ((acc + 1) * 10) * 10 ^ r.length := Nat.mul_le_mul_right _ (by omega)
      _ = (acc + 1) * 10 ^ (r.length + 1) := by rw [Nat.pow_succ]; ac_rfl

theorem parseFraction_lex (ds : List Nat) (rest : Bytes) (k : Nat) (h1 : 1 ≤ ds.length) (hk : ds.length ≤ k) (hk9 : k ≤ 9)
    (hall : ds.all (· ≤ 9) = true) (hs : Stops (fracBytes ds) rest k) :
    parseFraction (fracBytes ds ++ rest) k = .ok ((fracValue ds : Int), rest) := by
  have hlen : (fracBytes ds).length = ds.length := by simp [fracBytes]
  have hd := fracBytes_digs ds hall
  have he := eatDigits_stop (fracBytes ds) rest k hd (by omega) hs
  have hlt : ds.foldl (fun a d => a * 10 + d) 0 < 10 ^ ds.length := by simpa using foldl_frac_lt ds hall 0
  have h9 : ds.length < FRACTION_FACTOR_BITS.length := by simp [FRACTION_FACTOR_BITS]; omega
  have hv := parseFraction_value (ds.foldl (fun a d => a * 10 + d) 0) ds.length (by omega) hlt
  rw [List.getElem?_eq_getElem h9] at hv
  simp only [Option.map_some, Option.pure_def, Option.bind_eq_bind, Option.bind_some, Option.some.injEq] at hv
  obtain ⟨c, r, hfb⟩ : ∃ c r, fracBytes ds = c :: r := by
    cases hfb : fracBytes ds with
    | nil => rw [hfb] at hlen; simp at hlen; omega
    | cons c r => exact ⟨c, r, rfl⟩
  obtain ⟨_, h2, _⟩ := digs_head_ne c r (hfb ▸ hd)
  rw [hfb, List.cons_append] at he ⊢
  simp only [parseFraction, h2, ↓reduceIte, he, ← hfb, hlen, foldDigits_frac,
    idx_eq_ok (Int.natCast_nonneg _) (by simpa using h9), Int.toNat_natCast, Chk.ok_bind, hv]
  rfl

theorem eatWs_frac (ds : List Nat) (rest : Bytes) (h1 : 1 ≤ ds.length) (hall : ds.all (· ≤ 9) = true) :
    eatWhitespaces (fracBytes ds ++ rest) = fracBytes ds ++ rest := by
  apply eatWs_digs _ _ _ (fracBytes_digs ds hall)
  intro hc; simp [fracBytes] at hc; subst hc; simp at h1

theorem parseWeekDayNumber_lex (d : Nat) (rest : Bytes) (hd : d ≤ 9) :
    parseWeekDayNumber ((d + 48) :: rest) = if 1 ≤ d ∧ d ≤ 7 then .ok ((d : Int), rest) else .error .ParseError := by
  unfold parseWeekDayNumber perr
  have e : (d + 48 + 256 - 48) % 256 = d := by omega
  simp only [e, Int.ofNat_eq_natCast]

theorem roundDown_eq (cy m : Int) : cy - rrem cy m = roundDown cy m := by
  unfold rrem roundDown
  split <;> rw [Int.emod_def, Int.mul_comm] <;> omega

theorem parseYear_ym (sg : Sign) (z n : Nat) (rest : Bytes) (now : Clock)
    (hrun : Run (numDigits z n) 9 (n : Int)) (hstop : Stops (numDigits z n) rest 9) :
    parseYear (sg.text ++ (numDigits z n ++ rest)) 9 now =
      .ok (isMinus sg, (if isMinus sg = true then -(n : Int) else (n : Int)), rest, false) := by
  rw [parseYear_plain _ 9 now (by omega), parseNumber_lex hrun sg rest hstop]; rfl

def signLen (input : Bytes) : Nat :=
  match input with
  | ch :: _ => if ch = B '+' ∨ ch = B '-' then 1 else 0
  | [] => 0

theorem parseYear_two (input : Bytes) (now : Clock) :
    parseYear input 2 now = (do
      let (negative, year, rem) ← parseNumber input 4
      if input.length - rem.length - signLen input > 2 then pure (negative, year, rem, false)
      else
        let cy := now.year
        pure (negative, cy - rrem cy 100 + year, rem, true)) := by
  simp only [parseYear, ↓reduceIte]
  rfl

/-- The digits counted by the two-digit rule are those of the run: the sign is not one of them. -/
theorem signLen_lex {ds : Bytes} {k : Nat} {n : Int} (h : Run ds k n) (sg : Sign) (rest : Bytes) :
    (sg.text ++ (ds ++ rest)).length - rest.length - signLen (sg.text ++ (ds ++ rest)) = ds.length := by
  unfold signLen
  cases sg with
  | none =>
    cases hds : ds with
    | nil => exact absurd hds h.ne
    | cons c r =>
      obtain ⟨h1, h2, _⟩ := digs_head_ne c r (by rw [← hds]; exact h.digs)
      simp [sign_none_text, h1, h2]; omega
  | plus => simp [sign_plus_text, B]; omega
  | minus => simp [sign_minus_text, B]; omega

theorem parseYear_date (ty : Ty) (hty : ty ≠ .YM) (w : Nat) (sg : Sign) (z n : Nat) (rest : Bytes) (now : Clock)
    (hrun : Run (numDigits z n) (if w = 2 then 4 else w) (n : Int))
    (hstop : Stops (numDigits z n) rest (if w = 2 then 4 else w)) :
    ∃ y rd, parseYear (sg.text ++ (numDigits z n ++ rest)) w now = .ok (isMinus sg, y, rest, rd) ∧
      (isMinus sg = false → y = completeYear ty w (numWidth z n) n now) := by
  have hp := parseNumber_lex hrun sg rest hstop
  by_cases h2 : w = 2
  · subst h2
    rw [if_pos rfl] at hp
    have hy := parseYear_two (sg.text ++ (numDigits z n ++ rest)) now
    rw [hp, Chk.ok_bind] at hy
    simp only [signLen_lex hrun sg rest, numDigits_length] at hy
    by_cases hlen : numWidth z n > 2
    · rw [if_pos hlen] at hy
      exact ⟨_, _, hy, fun hm => by simp [hm, completeYear, hty, Nat.not_le.2 hlen]⟩
    · rw [if_neg hlen] at hy
      refine ⟨_, _, hy, fun hm => ?_⟩
      simp only [hm, Bool.false_eq_true, ↓reduceIte, completeYear, hty, Nat.not_lt.1 hlen, and_self, or_true]
      rw [roundDown_eq]; rfl
  · rw [if_neg h2] at hp
    by_cases h13 : w = 1 ∨ w = 3
    · refine ⟨_, _, C18.parseYear_completion _ now w h13 _ _ _ hp, fun hm => ?_⟩
      rcases h13 with rfl | rfl <;>
        simp only [hm, Bool.false_eq_true, ↓reduceIte, completeYear, hty, true_or, or_true, Nat.reduceEqDiff]
      · rw [roundDown_eq]; rfl
      · rw [roundDown_eq]; rfl
    · refine ⟨_, _, by rw [parseYear_plain _ w now (by omega), hp]; rfl, fun hm => ?_⟩
      simp [hm, completeYear, hty, h2, h13]

end SqlDt.Lemmas
