/-
  Lemmas/TranslatedFmtEq (hand-written, stable): `Tr.f = model f` for the byte-slice leaf functions of
  src/format.rs that tools/rs2lean.py emits into SqlDt/TranslatedFmt.lean.
  Same namespace (`SqlDt.TrEq`) and attribute (`tr_eq`) as Lemmas/TranslatedEq, but independent of that file (the
  leaf functions call nothing of the integer core), so lake builds it in parallel.

  Text is `List Nat` on both sides.  A `usize` parameter is an `Int` in the translation and a `Nat` in the model:
  the statements use `n.toNat`, and hold for every `Int` (also negative ones, which no `usize` is).
  The proofs are scripts with `simp` and its default set, not one tactic: what they survive is what the variants of
  tools/rs2lean_tests/phase6_mutate.py try.
-/
import SqlDt.TranslatedFmt
import SqlDt.Lemmas.TrAttr
import SqlDt.Model.Parse
import SqlDt.Lemmas.ParseStep
set_option linter.unusedSimpArgs false
namespace SqlDt.TrEq
open SqlDt SqlDt.Gen SqlDt.TrTactic

/-! ### the combinators of the translation against the model's vocabulary -/

theorem isAsciiDigit_ofNat (n : Nat) : Tr.isAsciiDigit (Int.ofNat n) = isDigitB n := by
  unfold Tr.isAsciiDigit isDigitB
  rw [Bool.eq_iff_iff]; simp; omega

theorem isAsciiWhitespace_ofNat (n : Nat) : Tr.isAsciiWhitespace (Int.ofNat n) = isWhitespaceB n := by
  unfold Tr.isAsciiWhitespace isWhitespaceB
  rw [Bool.eq_iff_iff]; simp; omega

theorem isAsciiUppercase_ofNat (n : Nat) : Tr.isAsciiUppercase (Int.ofNat n) = isUpperB n := by
  unfold Tr.isAsciiUppercase isUpperB
  rw [Bool.eq_iff_iff]; simp; omega

theorem isAsciiLowercase_ofNat (n : Nat) : Tr.isAsciiLowercase (Int.ofNat n) = isLowerB n := by
  unfold Tr.isAsciiLowercase isLowerB
  rw [Bool.eq_iff_iff]; simp; omega

theorem toNat_ofNat (n : Nat) : (Int.ofNat n).toNat = n := rfl

theorem drop_takeWhile_length {α} (p : α → Bool) (s : List α) :
    s.drop (s.takeWhile p).length = s.dropWhile p := by
  rw [← List.drop_left (l₁ := s.takeWhile p) (l₂ := s.dropWhile p), List.takeWhile_append_dropWhile]

theorem asU8_small {x : Int} (h0 : 0 ≤ x) (h1 : x < 256) : asU8 x = x := by unfold asU8; omega

/-- unfold the slice / iterator combinators and read the byte predicates through the model's -/
macro "tr_bytes" : tactic => `(tactic| simp only [Tr.bFrom, Tr.bTo, Tr.bSlice, Tr.bLen, Tr.bFirst, Tr.bPosition,
  isAsciiDigit_ofNat, isAsciiWhitespace_ofNat, isAsciiUppercase_ofNat, isAsciiLowercase_ofNat, toNat_ofNat,
  Int.toNat_natCast, drop_takeWhile_length])

/-- the leaves of a case split over byte values: `Int.ofNat b` against `b`, wrapped `u8` arithmetic against `Nat` -/
macro "tr_bytes_close" : tactic => `(tactic| (
  repeat' split
  all_goals first
    | rfl
    | omega
    | (simp only [Except.ok.injEq, Prod.mk.injEq, reduceCtorEq, and_true, true_and]; omega)
    | norm_cast
    | (simp_all; done)))

@[tr_eq] theorem expect_char_eq (s : List Nat) (expected : Int) :
    Tr.expect_char s expected = decide ((List.head? s).map Int.ofNat = some expected) := by
  unfold Tr.expect_char
  cases s <;> simp [Tr.bFirst]

/-- The model has no function of that name: its `Parser.expectChar` is the pair of macros `expect_char!` /
    `expect_char_with_tolerence!` of `parse_internal`.  This is how it reads through the translated function. -/
theorem expectChar_via_tr (st : Parser.St) (ch : Nat) (tolerant : Bool) :
    Parser.expectChar st ch tolerant =
      if Tr.expect_char st.s (Int.ofNat ch) = true then .ok { st with s := st.s.drop 1 }
      else if st.s.isEmpty = true ∧ tolerant = true then .ok st else Parser.perr := by
  rw [expect_char_eq]
  unfold Parser.expectChar
  cases h : st.s with
  | nil => cases tolerant <;> simp
  | cons c r =>
    by_cases hc : c = ch
    · subst hc; simp
    · have : ¬ (c : Int) = (ch : Int) := by omega
      simp [hc, this]

@[tr_eq] theorem eat_whitespaces_eq (s : List Nat) : Tr.eat_whitespaces s = Parser.eatWhitespaces s := by
  first
  | (unfold Tr.eat_whitespaces Parser.eatWhitespaces
     tr_bytes
     done)
  | -- any other way of skipping the prefix (`position`, ..): by induction on the text, through the recursion equations
    -- of whatever list functions the translation uses
    (unfold Parser.eatWhitespaces
     induction s with
     | nil => simp [Tr.eat_whitespaces, Tr.bFrom, Tr.bLen, Tr.bPosition]
     | cons a r ih =>
       rw [List.dropWhile_cons, ← ih]
       unfold Tr.eat_whitespaces
       simp only [Tr.bFrom, Tr.bTo, Tr.bLen, Tr.bPosition, isAsciiWhitespace_ofNat, toNat_ofNat, List.takeWhile_cons,
         List.findIdx?_cons]
       by_cases h : isWhitespaceB a <;> simp [h] <;>
         first | done | (cases hfi : List.findIdx? _ r <;> simp_all; done))

@[tr_eq] theorem eat_digits_eq (s : List Nat) (max_len : Int) :
    Tr.eat_digits s max_len = Parser.eatDigits s max_len.toNat := by
  unfold Tr.eat_digits
  unfold Parser.eatDigits
  tr_bytes

@[tr_eq] theorem parse_week_day_number_eq (s : List Nat) :
    Tr.parse_week_day_number s = Parser.parseWeekDayNumber s := by
  unfold Tr.parse_week_day_number
  cases s with
  | nil =>
    simp [Parser.parseWeekDayNumber, Parser.perr, Tr.bGet, Tr.bFrom, Tr.bFirst, idxD, asU8]
    first | done | tr_bytes_close
  | cons a r =>
    simp [Parser.parseWeekDayNumber, Parser.perr, Tr.bGet, Tr.bFrom, Tr.bFirst, idxD, asU8]
    first | done | tr_bytes_close

@[tr_eq] theorem parse_number_eq (input : List Nat) (max_len : Int) :
    Tr.parse_number input max_len = Parser.parseNumber input max_len.toNat := by
  unfold Tr.parse_number
  -- For an UNTRANSLATED alias of the model's function the goal is `x = x` here: the first step of the script closes it
  -- and the next finds no goal.  Hence the first alternative; likewise in `write_u32_eq`, `parse_fraction_eq`,
  -- `parse_ampm_eq`, `parse_month_name_eq`, `parse_week_day_name_eq`, `parse_year_eq`, and (with the goal `True`) in
  -- four proofs of Lemmas/TranslatedFmtSafe.  The other scripts go through for an alias as they are.
  first
  | (with_reducible_and_instances rfl)
  | (simp only [tr_eq]
     cases input with
     | nil => simp [Tr.bFirst, Parser.parseNumber, Parser.perr]
     | cons a r =>
       simp [Tr.bFirst, Tr.bFrom, Parser.parseNumber, Parser.foldDigits, Parser.perr, B]
       first
         | done
         | (norm_cast; done)
         | -- the model distinguishes `+`, `-` and everything else
           (have c43 : ((a : Int) = 43) = (a = 43) := by simp only [eq_iff_iff]; omega
            have c45 : ((a : Int) = 45) = (a = 45) := by simp only [eq_iff_iff]; omega
            simp only [c43, c45]
            by_cases h43 : a = 43 <;> by_cases h45 : a = 45 <;> simp_all <;> done)
         | tr_bytes_close)

theorem digitsRev_small (fuel v : Nat) (h : v < 10) : digitsRev (fuel + 1) v = [v + 48] := by
  have : ¬ v ≥ 10 := by omega
  simp [digitsRev, this]
theorem digitsRev_big (fuel v : Nat) (h : 10 ≤ v) :
    digitsRev (fuel + 1) v = (v % 10 + 48) :: digitsRev fuel (v / 10) := by
  have : v ≥ 10 := h
  simp [digitsRev, this]
theorem digitsRev_length_pos (fuel v : Nat) : 1 ≤ (digitsRev (fuel + 1) v).length := by
  unfold digitsRev; split <;> simp

/-- The loop `while val >= 10 { buf[index] = val % 10 + '0'; index -= 1; val /= 10 }` over the state
    `(buf, index, val)`, followed by the store of the leading digit: the digits of `v` (most significant first) end
    at position `i`, everything else is untouched.  `cond` / `step` are abstract: only what they compute matters. -/
theorem digits_loop_nat {cond : List Nat × Int × Int → Bool} {step : List Nat × Int × Int → List Nat × Int × Int}
    (hC : ∀ b i v, cond (b, i, v) = decide (v ≥ 10))
    (hS : ∀ b i v, 0 ≤ i → 0 ≤ v → step (b, i, v) = (Tr.bSet b i (v % 10 + 48), i - 1, v / 10)) :
    ∀ (fuel : Nat) (b : List Nat) (i v : Nat), v < 10 ^ (fuel + 1) → fuel ≤ i → i < b.length →
      ∃ (j v' : Nat), (Tr.loopN fuel cond step (b, (i : Int), (v : Int))).2.1 = (j : Int) ∧
        (Tr.loopN fuel cond step (b, (i : Int), (v : Int))).2.2 = (v' : Int) ∧ v' < 10 ∧
        j + (digitsRev (fuel + 1) v).length = i + 1 ∧
        (Tr.loopN fuel cond step (b, (i : Int), (v : Int))).1.set j (v' + 48) =
          b.take j ++ (digitsRev (fuel + 1) v).reverse ++ b.drop (i + 1) := by
  intro fuel
  induction fuel with
  | zero =>
    intro b i v hv hi hb
    have hv10 : v < 10 := by simpa using hv
    refine ⟨i, v, rfl, rfl, hv10, ?_, ?_⟩
    · simp [digitsRev_small _ _ hv10]
    · simp [Tr.loopN, digitsRev_small _ _ hv10, List.set_eq_take_append_cons_drop, hb]
  | succ n ih =>
    intro b i v hv hi hb
    by_cases h10 : v ≥ 10
    · have hc : cond (b, (i : Int), (v : Int)) = true := by rw [hC]; simp; omega
      have hstep := hS b (i : Int) (v : Int) (by omega) (by omega)
      have e1 : ((i : Int) - 1) = ((i - 1 : Nat) : Int) := by omega
      have e2 : ((v : Int) / 10) = ((v / 10 : Nat) : Int) := by omega
      have e3 : Tr.bSet b (i : Int) ((v : Int) % 10 + 48) = b.set i (v % 10 + 48) := by
        unfold Tr.bSet
        have : ¬ ((i : Int) < 0) := by omega
        simp only [this, ↓reduceIte, Int.toNat_natCast]
        congr 1
      rw [e1, e2, e3] at hstep
      have hv1 : v / 10 < 10 ^ (n + 1) := by
        have : 10 ^ (n + 1 + 1) = 10 * 10 ^ (n + 1) := by rw [Nat.pow_succ, Nat.mul_comm]
        omega
      obtain ⟨j, v', h1, h2, h3, h4, h5⟩ := ih (b.set i (v % 10 + 48)) (i - 1) (v / 10) hv1 (by omega)
        (by simp; omega)
      have hl : Tr.loopN (n + 1) cond step (b, (i : Int), (v : Int)) =
          Tr.loopN n cond step (b.set i (v % 10 + 48), ((i - 1 : Nat) : Int), ((v / 10 : Nat) : Int)) := by
        rw [Tr.loopN, hc, hstep]; simp
      rw [hl]
      refine ⟨j, v', h1, h2, h3, ?_, ?_⟩
      · rw [digitsRev_big _ _ h10]; simp; omega
      · rw [h5, digitsRev_big _ _ h10]
        have hj : j < i := by
          have hp := digitsRev_length_pos n (v / 10)
          omega
        have t1 : (b.set i (v % 10 + 48)).take j = b.take j := by
          rw [List.take_set_of_le (by omega)]
        have t2 : (b.set i (v % 10 + 48)).drop (i - 1 + 1) = (v % 10 + 48) :: b.drop (i + 1) := by
          have : i - 1 + 1 = i := by omega
          rw [this, List.set_eq_take_append_cons_drop]
          simp only [hb, ↓reduceIte]
          have hlen : (List.take i b).length = i := by simp; omega
          exact List.drop_left' hlen
        rw [t1, t2]; simp
    · have hv10 : v < 10 := by omega
      have hc : cond (b, (i : Int), (v : Int)) = false := by rw [hC]; simp; omega
      refine ⟨i, v, ?_, ?_, hv10, ?_, ?_⟩
      · rw [Tr.loopN, hc]; simp
      · rw [Tr.loopN, hc]; simp
      · simp [digitsRev_small _ _ hv10]
      · rw [Tr.loopN, hc]
        simp [digitsRev_small _ _ hv10, List.set_eq_take_append_cons_drop, hb]

/-- the loop body of the translation computes `(buf[index] := val % 10 + '0', index - 1, val / 10)`, however it is written -/
macro "tr_digit_loop_step" : tactic => `(tactic| (
  intro b i x hi hx
  try simp (disch := omega) only [asU8_small]
  first
    | done
    | rfl
    | (simp only [Prod.mk.injEq, and_true, true_and]
       repeat' apply And.intro
       all_goals first | rfl | omega | (congr 1; omega) | (congr 1; simp (disch := omega) only [asU8_small]; omega))))

/-- the same, about a loop that is given by an equation (so that `cond` and `step` are read off the goal) -/
theorem digits_loop {cond : List Nat × Int × Int → Bool} {step : List Nat × Int × Int → List Nat × Int × Int}
    {fuel : Nat} {b : List Nat} {i' v' : Int} {st : List Nat × Int × Int}
    (hst : Tr.loopN fuel cond step (b, i', v') = st) (i v : Nat) (hi' : i' = (i : Int)) (hv' : v' = (v : Int))
    (hC : ∀ b i v, cond (b, i, v) = decide (v ≥ 10))
    (hS : ∀ b i v, 0 ≤ i → 0 ≤ v → step (b, i, v) = (Tr.bSet b i (v % 10 + 48), i - 1, v / 10))
    (hv : v < 10 ^ (fuel + 1)) (hi : fuel ≤ i) (hb : i < b.length) :
    ∃ (j w : Nat), st.2.1 = (j : Int) ∧ st.2.2 = (w : Int) ∧ w < 10 ∧
      j + (digitsRev (fuel + 1) v).length = i + 1 ∧
      st.1.set j (w + 48) = b.take j ++ (digitsRev (fuel + 1) v).reverse ++ b.drop (i + 1) := by
  subst hi' hv' hst
  exact digits_loop_nat hC hS fuel b i v hv hi hb

/-- `write_u32(w, value, width)` writes what the model's `writeU32` returns: for every `u32` value and every width up to
    11 (the crate asserts `0 < width < 11`; with a larger width the index computation `index -= width - len` would
    underflow, see `write_u32_safe`). -/
@[tr_eq] theorem write_u32_eq (value width : Int) (hv0 : 0 ≤ value) (hv1 : value ≤ 4294967295) (hw : width ≤ 11) :
    Tr.write_u32 value width = writeU32 value width.toNat := by
  unfold Tr.write_u32
  first
  | (with_reducible_and_instances rfl)
  | (obtain ⟨v, rfl⟩ : ∃ v : Nat, value = (v : Int) := ⟨value.toNat, by omega⟩
     simp only []
     generalize hst : Tr.loopN _ _ _ _ = st
     obtain ⟨j, w, h1, h2, h3, h4, h5⟩ := digits_loop hst 10 v (by simp) rfl
       (by intros; rfl)
       (by tr_digit_loop_step)
       (by omega) (by omega) (by simp)
     have hset : Tr.bSet st.1 st.2.1 (asU8 st.2.2 + 48) = List.replicate j 48 ++ (digitsRev 11 v).reverse := by
       rw [h1, h2, asU8_small (by omega) (by omega)]
       have e : Tr.bSet st.1 (j : Int) ((w : Int) + 48) = st.1.set j (w + 48) := by
         unfold Tr.bSet
         have : ¬ ((j : Int) < 0) := by omega
         simp only [this, ↓reduceIte, Int.toNat_natCast]
         congr 1
       rw [e, h5]
       have hj : j ≤ 11 := by omega
       simp only [List.take_replicate, List.drop_replicate, Nat.min_eq_left hj, Nat.reduceAdd, Nat.reduceSub,
         List.replicate_zero, List.append_nil]
     rw [hset, h1]
     generalize hds : digitsRev 11 v = ds at *
     have hL : j + ds.length = 11 := by simpa using h4
     unfold writeU32 Tr.bSlice
     simp only [List.nil_append, Int.toNat_natCast, hds]
     have htake : List.take (Int.toNat 11) (List.replicate j 48 ++ ds.reverse) = List.replicate j 48 ++ ds.reverse := by
       apply List.take_of_length_le; simp; omega
     rw [htake]
     have hk : (if width > 11 - (j : Int) then (j : Int) - (width - (11 - (j : Int))) else (j : Int)).toNat =
         j - (width.toNat - ds.length) := by split <;> omega
     have hm : j - (j - (width.toNat - ds.length)) = width.toNat - ds.length := by omega
     rw [hk, List.drop_append_of_le_length (by simp), List.drop_replicate, hm, List.length_reverse])

/-- the crate's table of `f64` literals, as the translator renders it (integer-valued literals as `F64.ofInt n`, the others
    by their IEEE-754 bits), is the table of bit patterns in `Generated.lean` -/
theorem fraction_factor_table :
    [F64.ofInt 1000000, F64.ofInt 100000, F64.ofInt 10000, F64.ofInt 1000, F64.ofInt 100, F64.ofInt 10, F64.ofInt 1,
      F64.ofBits 0x3fb999999999999a, F64.ofBits 0x3f847ae147ae147b, F64.ofBits 0x3f50624dd2f1a9fc] =
    FRACTION_FACTOR_BITS.map F64.ofBits := by decide

theorem idx_map_ok {α β} (f : α → β) (xs : List α) (i : Int) (d : β) (h0 : 0 ≤ i) (h1 : i < (xs.length : Int)) :
    ∃ b, idx xs i = .ok b ∧ idxD (xs.map f) i d = f b := by
  unfold idx idxD
  have hn : ¬ i < 0 := by omega
  have hl : i.toNat < xs.length := by omega
  refine ⟨xs[i.toNat], ?_, ?_⟩
  · simp only [hn, ↓reduceIte, List.getElem?_eq_getElem hl]
  · simp [hn, hl]

/-- `NaiveDateTime::fraction(p)` for a precision `p` in 0..9 (the crate asserts `p < 10`; the model's function returns a
    `Chk` because its table access is the panicking one). -/
@[tr_eq] theorem NDT.fraction_eq (dt : NDT) (p : Int) (h0 : 0 ≤ p) (h1 : p ≤ 9) :
    NDT.fraction dt p.toNat = .ok (Tr.NDT.fraction dt p) := by
  unfold Tr.NDT.fraction
  obtain ⟨b, hb1, hb2⟩ := idx_map_ok F64.ofBits FRACTION_FACTOR_BITS p (F64.ofInt 0) h0
    (by simp [FRACTION_FACTOR_BITS]; omega)
  have hp : ((p.toNat : Nat) : Int) = p := by omega
  simp only [NDT.fraction, fraction_factor_table, hp, hb1, hb2, bind, Except.bind, pure, Except.pure]

/-- `parse_fraction(s, max_len)` for `max_len ≤ 9` (the callers pass the precision of the `FF[1-9]` field, 9 by default):
    with ten digits the table access `FRACTION_FACTOR[digits.len()]` is out of bounds (the model says `Panic`). -/
@[tr_eq] theorem parse_fraction_eq (s : List Nat) (max_len : Int) (hm : max_len ≤ 9) :
    Tr.parse_fraction s max_len = Parser.parseFraction s max_len.toNat := by
  unfold Tr.parse_fraction
  first
  | (with_reducible_and_instances rfl)
  | (simp only [tr_eq, fraction_factor_table]
     have hlen := SqlDt.Lemmas.eatDigits_len s max_len.toNat
     obtain ⟨b, hb1, hb2⟩ := idx_map_ok F64.ofBits FRACTION_FACTOR_BITS
       (Tr.bLen (Parser.eatDigits s max_len.toNat).1) (F64.ofInt 0)
       (by simp [Tr.bLen]) (by simp [FRACTION_FACTOR_BITS, Tr.bLen]; omega)
     cases s with
     | nil => simp [Tr.bFirst, Parser.parseFraction]
     | cons a r =>
       simp only [Tr.bLen, Int.ofNat_eq_natCast] at hb1 hb2
       have c45 : ((a : Int) = 45) = (a = 45) := by simp only [eq_iff_iff]; omega
       simp only [Tr.bFirst, Tr.bLen, Parser.parseFraction, Parser.perr, Parser.foldDigits, B, Int.ofNat_eq_natCast,
         hb1, hb2, c45, bind, Except.bind, pure, Except.pure, Char.reduceToNat])

theorem toAsciiLowercase_ofNat (n : Nat) : Tr.toAsciiLowercase (Int.ofNat n) = Int.ofNat (toLowerB n) := by
  unfold Tr.toAsciiLowercase toLowerB isUpperB
  simp only [Int.ofNat_eq_natCast]
  by_cases h : 65 ≤ n ∧ n ≤ 90
  · have h' : (65 : Int) ≤ n ∧ (n : Int) ≤ 90 := by omega
    simp [h, h']
  · have h' : ¬ ((65 : Int) ≤ n ∧ (n : Int) ≤ 90) := by omega
    have h2 : ¬ (65 ≤ n ∧ n ≤ 90) := h
    simp only [h', ↓reduceIte]
    have : (decide (65 ≤ n) && decide (n ≤ 90)) = false := by simp; omega
    simp [this]

/-- the crate's `CaseInsensitive::starts_with` (length test, then `eq_ignore_ascii_case` with the prefix) is the model's -/
theorem startsWithCI_via_tr : ∀ (n s : List Nat),
    decide (Tr.bLen s ≥ Tr.bLen n ∧ Tr.bEqIgnoreCase n (Tr.bTo s (Tr.bLen n)) = true) = startsWithCI s n := by
  intro n
  induction n with
  | nil => intro s; cases s <;> simp [Tr.bLen, Tr.bTo, Tr.bEqIgnoreCase, startsWithCI] <;> omega
  | cons b t ih =>
    intro s
    cases s with
    | nil => simp [Tr.bLen, Tr.bTo, Tr.bEqIgnoreCase, startsWithCI] <;> omega
    | cons a r =>
      have h := ih r
      simp only [Tr.bLen, Tr.bTo, Int.ofNat_eq_natCast, Int.toNat_natCast] at h ⊢
      simp only [List.length_cons, List.take_succ_cons, Tr.bEqIgnoreCase, startsWithCI, eqIgnoreCaseB,
        toAsciiLowercase_ofNat]
      rw [← h]
      rw [Bool.eq_iff_iff]
      simp only [Int.ofNat_eq_natCast, decide_eq_true_eq, Bool.and_eq_true, beq_iff_eq]
      constructor
      · intro ⟨h1, h2, h3⟩
        exact ⟨by omega, decide_eq_true ⟨by omega, h3⟩⟩
      · intro ⟨h1, h2⟩
        have h3 := of_decide_eq_true h2
        exact ⟨by omega, by omega, h3.2⟩

theorem bFrom_ofNat (s : List Nat) (k : Nat) : Tr.bFrom s (k : Int) = s.drop k := by
  unfold Tr.bFrom; simp

/-- `AmPmStyle` is its discriminant in the translation: `Upper, Lower, UpperDot, LowerDot` = 0..3 (`AmPmStyle.index`) -/
@[tr_eq] theorem parse_ampm_eq (s : List Nat) (style : AmPmStyle) :
    Tr.parse_ampm s (Int.ofNat style.index) = Parser.parseAmPm s style := by
  unfold Tr.parse_ampm
  first
  | (cases style <;> simp [AmPmStyle.index] <;> done)
  | (simp only [startsWithCI_via_tr]
     cases s <;> cases style <;>
       simp [AmPmStyle.index, Parser.parseAmPm, Parser.perr, Tr.bFrom, B])

/-- a search loop whose body is "if the text starts with this name: return its number and the rest" is the model's `findName` -/
theorem forFirst_findName (s : List Nat) {f : Int → List Nat → Option (Chk (Int × List Nat))}
    (hf : ∀ i x, f i x = if startsWithCI s x = true then some (Except.ok (i + 1, s.drop x.length)) else none) :
    ∀ (xs : List (List Nat)) (k : Nat),
      Tr.forFirst f (k : Int) xs =
        (Parser.findName s xs (k + 1)).map (fun p => (Except.ok (Int.ofNat p.1, s.drop p.2) : Chk (Int × List Nat))) := by
  intro xs
  induction xs with
  | nil => intro k; simp [Tr.forFirst, Parser.findName]
  | cons x xs ih =>
    intro k
    unfold Tr.forFirst Parser.findName
    rw [hf]
    by_cases h : startsWithCI s x = true
    · simp [h]
    · simp only [h]
      have := ih (k + 1)
      simpa using this

/-- as the translation starts the search: at index 0 -/
theorem forFirst_findName0 (s : List Nat) {f : Int → List Nat → Option (Chk (Int × List Nat))} (xs : List (List Nat))
    (hf : ∀ i x, f i x = if startsWithCI s x = true then some (Except.ok (i + 1, s.drop x.length)) else none) :
    Tr.forFirst f 0 xs =
      (Parser.findName s xs 1).map (fun p => (Except.ok (Int.ofNat p.1, s.drop p.2) : Chk (Int × List Nat))) := by
  have := forFirst_findName s hf xs 0
  simpa using this

@[tr_eq] theorem parse_month_name_eq (s : List Nat) : Tr.parse_month_name s = Parser.parseMonthName s := by
  unfold Tr.parse_month_name
  first
  | (with_reducible_and_instances rfl)
  | (simp only [startsWithCI_via_tr]
     simp only [Tr.bFrom, Tr.bLen, toNat_ofNat]
     rw [forFirst_findName0 s, forFirst_findName0 s]
     · unfold Parser.parseMonthName
       simp only [idxD, NAMESTYLE_CAPITAL, NAMESTYLE_ABBRCAPITAL, Parser.perr, Int.reduceToNat, Int.reduceLT,
         ↓reduceIte, Nat.reduceLT]
       cases Parser.findName s (MONTH_NAME_TABLE.getD 0 []) 1 <;>
         cases Parser.findName s (MONTH_NAME_TABLE.getD 3 []) 1 <;> rfl
     all_goals (intro i x; rfl))

/-- `NameStyle` is its discriminant in the translation (`NameStyle.index`, 0..5) -/
@[tr_eq] theorem parse_week_day_name_eq (s : List Nat) (style : NameStyle) :
    Tr.parse_week_day_name s (Int.ofNat style.index) = Parser.parseWeekDayName s style := by
  unfold Tr.parse_week_day_name
  first
  | (cases style <;> simp [NameStyle.index, NAMESTYLE_CAPITAL, NAMESTYLE_LOWER, NAMESTYLE_UPPER, NAMESTYLE_ABBRCAPITAL,
       NAMESTYLE_ABBRLOWER, NAMESTYLE_ABBRUPPER] <;> done)
  | (simp only [startsWithCI_via_tr]
     simp only [Tr.bFrom, Tr.bLen, toNat_ofNat]
     rw [forFirst_findName0 s, forFirst_findName0 s]
     · unfold Parser.parseWeekDayName
       cases style <;>
         simp [idxD, NameStyle.index, NAMESTYLE_CAPITAL, NAMESTYLE_LOWER, NAMESTYLE_UPPER, NAMESTYLE_ABBRCAPITAL,
           NAMESTYLE_ABBRLOWER, NAMESTYLE_ABBRUPPER, Parser.perr] <;>
         (first | done | rfl | (cases Parser.findName s _ 1 <;> rfl))
     all_goals (intro i x; rfl))

/-- `parse_year(input, max_len, get_now)`: the clock closure is its reading; the model's fourth component (was the clock
    read?) has no counterpart in the function's result.  No hypotheses: every text, every `max_len`, every clock. -/
@[tr_eq] theorem parse_year_eq (input : List Nat) (max_len : Int) (now : Clock) :
    Tr.parse_year input max_len now =
      (Parser.parseYear input max_len.toNat now).map (fun r => (r.1, r.2.1, r.2.2.1)) := by
  unfold Tr.parse_year
  first
  | (with_reducible_and_instances rfl)
  | (simp only [tr_eq]
     unfold Parser.parseYear
     by_cases h2 : max_len = 2
     · subst h2
       simp only [Int.reduceToNat, ↓reduceIte]
       cases hp : Parser.parseNumber input 4 with
       | error e => simp [hp, bind, Except.bind, Except.map]
       | ok r =>
         obtain ⟨neg, year, rem⟩ := r
         simp only [hp, bind, Except.bind, Except.map, pure, Except.pure]
         cases input with
         | nil =>
           simp [Tr.bFirst, Tr.bLen, boolToInt, B]
           first | done | (intros; omega)
         | cons a t =>
           simp [Tr.bFirst, Tr.bLen, boolToInt, B]
           have c : ((a : Int) = 43 ∨ (a : Int) = 45) = (a = 43 ∨ a = 45) := by simp only [eq_iff_iff]; omega
           simp only [c]
           by_cases hs : a = 43 ∨ a = 45 <;> simp only [hs, ↓reduceIte] <;>
             (split <;> rename_i hi <;>
               first
               | (rw [if_pos (by omega)])
               | (rw [if_neg (by omega)]))
     · have n2 : ¬ max_len.toNat = 2 := by omega
       simp only [h2, n2, ↓reduceIte]
       by_cases h13 : max_len = 1 ∨ max_len = 3
       · have m13 : max_len.toNat = 1 ∨ max_len.toNat = 3 := by omega
         simp only [h13, m13, ↓reduceIte]
         cases hp : Parser.parseNumber input max_len.toNat with
         | error e => simp [hp, bind, Except.bind, Except.map]
         | ok r =>
           obtain ⟨neg, year, rem⟩ := r
           simp only [hp, bind, Except.bind, Except.map, pure, Except.pure]
           rcases h13 with h | h <;> subst h <;>
             simp [idx, idxD, YEAR_MODIFIER, asI32, bind, Except.bind, pure, Except.pure]
       · have m13 : ¬ (max_len.toNat = 1 ∨ max_len.toNat = 3) := by omega
         simp only [h13, m13, ↓reduceIte]
         cases hp : Parser.parseNumber input max_len.toNat with
         | error e => simp [hp, bind, Except.bind, Except.map]
         | ok r =>
           obtain ⟨neg, year, rem⟩ := r
           simp [hp, bind, Except.bind, Except.map, pure, Except.pure])

end SqlDt.TrEq
