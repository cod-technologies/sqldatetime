/-
  Lemmas/TranslatedUnits (hand-written, stable): `Tr.f = model f` for the calendar units of `Date`
  (`impl Trunc / Round for Date`) that are not already in Lemmas/TranslatedEq.
  Same namespace (`SqlDt.TrEq`) and attribute (`tr_eq`) as there; a separate file because it needs Lemmas/TranslatedFacts.
-/
import SqlDt.Lemmas.TranslatedFacts
namespace SqlDt.TrEq
open SqlDt SqlDt.Gen SqlDt.TrTactic

theorem idx_ok_int (xs : List Int) (i : Int) (h0 : 0 ≤ i) (h1 : i < (xs.length : Int)) :
    idx xs i = .ok (idxD xs i 0) :=
  idx_eq_idxD xs i 0 h0 h1

theorem applyWeekTable_eq (tbl : List (Bool × Int)) (i d : Int) (h0 : 0 ≤ i) (h1 : i < (tbl.length : Int)) :
    Date.applyWeekTable tbl i d =
      (if (idxD tbl i (false, 0)).1 = true then Date.subDays d (idxD tbl i (false, 0)).2 else Except.ok d) := by
  unfold Date.applyWeekTable
  rw [idx_eq_idxD tbl i (false, 0) h0 h1]
  simp only [bind, Except.bind, pure, Except.pure]

/-- `Tr.f d = Date.applyWeekTable TABLE i d`-shaped goals: callees rewritten, the model's unit opened, the index cast
    removed and the model's table step taken with the index in range (by `omega`, from the facts about the index that
    the theorem states first); the two sides then read the same entry.  The lists name all six week tables and their
    units, `ISO_YEAR_TABLE` / `truncIsoYear` for `Date.trunc_iso_year_eq` in Lemmas/TranslatedUnitsIso. -/
macro "tr_table" : tactic => `(tactic| (
  try simp (disch := omega) only [tr_eq]
  try simp only [Date.trunc, Date.round, Date.truncIsoWeek, Date.roundIsoWeek, Date.roundSundayStartWeek, Date.roundWeek,
    Date.roundMonthStartWeek, Date.roundWeekInternal, Date.roundMonthStartWeekInternal, Date.truncIsoYear, Date.subDate]
  try simp (disch := omega) only [asU64_eq]
  first
  | done
  | (with_reducible_and_instances rfl)
  | (rw [applyWeekTable_eq _ _ _ (by omega) (by simp only [TRUNC_ISO_WEEK_TABLE, ROUND_ISO_WEEK_TABLE,
        SUNDAY_START_WEEK_TABLE, WEEK_TABLE, MONTH_START_WEEK_TABLE, ISO_YEAR_TABLE, List.length_cons, List.length_nil]; omega)]
     first
     | done
     | (simp only [TRUNC_ISO_WEEK_TABLE, ROUND_ISO_WEEK_TABLE, SUNDAY_START_WEEK_TABLE, WEEK_TABLE, MONTH_START_WEEK_TABLE,
          ISO_YEAR_TABLE]
        first | (with_reducible_and_instances rfl) | tr_auto))))

@[tr_eq] theorem Date.trunc_iso_week_eq (d : Int) :
    Tr.Date.trunc_iso_week d = Date.trunc .isoWeek d := by
  unfold Tr.Date.trunc_iso_week
  have hw := dayOfWeek_range d
  tr_table

@[tr_eq] theorem Date.round_iso_week_eq (d : Int) :
    Tr.Date.round_iso_week d = Date.round .isoWeek d := by
  unfold Tr.Date.round_iso_week
  have hw := dayOfWeek_range d
  tr_table

@[tr_eq] theorem Date.round_sunday_start_week_eq (d : Int) :
    Tr.Date.round_sunday_start_week d = Date.round .sundayStartWeek d := by
  unfold Tr.Date.round_sunday_start_week
  have hw := dayOfWeek_range d
  tr_table

@[tr_eq] theorem Date.round_month_start_week_internal_eq (d day : Int) (hday : 0 ≤ day) :
    Tr.Date.round_month_start_week_internal d day = Date.roundMonthStartWeekInternal d day := by
  unfold Tr.Date.round_month_start_week_internal
  have hr := rrem_spec day 7
  tr_table

@[tr_eq] theorem Date.round_week_internal_eq (d year : Int) (hy : Date.fromYmdUnchecked year 1 1 ≤ d) :
    Tr.Date.round_week_internal d year = Date.roundWeekInternal d year := by
  unfold Tr.Date.round_week_internal
  have hr := rrem_spec (d - Date.fromYmdUnchecked year 1 1) 7
  tr_table

@[tr_eq] theorem Date.round_week_eq (d : Int) (hd : isValidDate d) :
    Tr.Date.round_week d = Date.round .week d := by
  unfold Tr.Date.round_week
  have hr := valid_date_range' d hd
  have hf := first_of_year_le d hd
  -- the inlined `year()` first, so that the callee's side condition reads as `hf` does
  try dsimp only
  tr_unit_eq tr_unit

@[tr_eq] theorem Date.round_month_start_week_eq (d : Int) (h0 : -2440588 ≤ d) (h1 : d ≤ 2145043059) :
    Tr.Date.round_month_start_week d = Date.round .monthStartWeek d := by
  unfold Tr.Date.round_month_start_week
  have hdd := extract_day_range d h0
  -- the inlined `day()` first, then its cast `as i32`: the callee's side condition `0 ≤ day` then follows from `hdd`
  try dsimp only
  try simp (disch := omega) only [tr_eq, asI32_eq]
  tr_unit_eq tr_unit

@[tr_eq] theorem Date.trunc_month_start_week_eq (d : Int) (h0 : -2440588 ≤ d) (h1 : d ≤ 2145043059) :
    Tr.Date.trunc_month_start_week d = Date.trunc .monthStartWeek d := by
  unfold Tr.Date.trunc_month_start_week
  have hdd := extract_day_range d h0
  tr_unit_eq tr_unit

@[tr_eq] theorem Date.trunc_century_eq (d : Int) (h0 : -2440588 ≤ d) (h1 : d ≤ 2145043059) :
    Tr.Date.trunc_century d = Date.trunc .century d := by
  unfold Tr.Date.trunc_century
  tr_unit_eq tr_unit

@[tr_eq] theorem Date.trunc_month_eq (d : Int) (h0 : -2440588 ≤ d) (h1 : d ≤ 2145043059) :
    Tr.Date.trunc_month d = Date.trunc .month d := by
  unfold Tr.Date.trunc_month
  tr_ymd d h0
  first | (with_reducible_and_instances rfl) | tr_auto

@[tr_eq] theorem Date.round_month_eq (d : Int) (h0 : -2440588 ≤ d) (h1 : d ≤ 2145043059) :
    Tr.Date.round_month d = Date.round .month d := by
  unfold Tr.Date.round_month
  tr_ymd d h0
  first | (with_reducible_and_instances rfl) | tr_auto

set_option hygiene false in
/-- the month `m` of `Date::extract` as an index into the quarter tables: the entries read on both sides become
    arithmetic on `m` (`UM.quarterTables`); the translation reads its own copies of the tables with `idxD` -/
macro "tr_quarter" : tactic => `(tactic| (
  obtain ⟨q1, q2, q3⟩ := SqlDt.Lemmas.UM.quarterTables m (by omega)
  have d1 := idxD_of_idx_ok 0 q1
  have d2 := idxD_of_idx_ok 0 q2
  have d3 := idxD_of_idx_ok 0 q3
  simp only [QUARTER_FIRST_MONTH, QUARTER_TRUNC_MONTH, QUARTER_ROUND_MONTH] at d1 d2 d3
  simp only [q1, q2, q3, d1, d2, d3]))

@[tr_eq] theorem Date.trunc_quarter_eq (d : Int) (h0 : -2440588 ≤ d) (h1 : d ≤ 2145043059) :
    Tr.Date.trunc_quarter d = Date.trunc .quarter d := by
  unfold Tr.Date.trunc_quarter
  tr_ymd d h0
  first | done | (tr_quarter; tr_auto)

@[tr_eq] theorem Date.round_quarter_eq (d : Int) (h0 : -2440588 ≤ d) (h1 : d ≤ 2145043059) :
    Tr.Date.round_quarter d = Date.round .quarter d := by
  unfold Tr.Date.round_quarter
  tr_ymd d h0
  first | done | (tr_quarter; tr_auto)

end SqlDt.TrEq
