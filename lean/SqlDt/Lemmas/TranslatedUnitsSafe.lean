/-
  Lemmas/TranslatedUnitsSafe (hand-written, stable): the safety predicates `Tr.f_safe` of the calendar units
  proved in Lemmas/TranslatedUnits.  Same namespace (`SqlDt.TrSafe`) and attribute (`tr_safe`) as Lemmas/TranslatedSafe.
-/
import SqlDt.Lemmas.TranslatedSafe
import SqlDt.Lemmas.TranslatedUnits
set_option linter.unusedVariables false
namespace SqlDt.TrSafe
open SqlDt SqlDt.Gen SqlDt.TrTactic SqlDt.TrEq

/-- a table index that is a day of the week: go through its seven values (the table entries become numerals;
    `ISO_YEAR_TABLE` is the one table that is read under its name, by `trunc_iso_year` in Lemmas/TranslatedUnitsIsoSafe) -/
macro "tr_dow_cases" d:ident : tactic => `(tactic| (
  generalize Date.dayOfWeek $d = w at *
  have hc : w = 1 ∨ w = 2 ∨ w = 3 ∨ w = 4 ∨ w = 5 ∨ w = 6 ∨ w = 7 := by omega
  rcases hc with h | h | h | h | h | h | h <;> subst h <;> simp [idxD, ISO_YEAR_TABLE] <;> tr_safe_auto))

@[tr_safe] theorem Date.trunc_century_safe (d : Int) (hd : isValidDate d) : Tr.Date.trunc_century_safe d := by
  unfold Tr.Date.trunc_century_safe
  tr_sdate d hd
  tr_safe_auto

@[tr_safe] theorem Date.trunc_month_safe (d : Int) (hd : isValidDate d) : Tr.Date.trunc_month_safe d := by
  unfold Tr.Date.trunc_month_safe
  tr_sdate d hd
  tr_safe_auto

@[tr_safe] theorem Date.round_month_safe (d : Int) (hd : isValidDate d) : Tr.Date.round_month_safe d := by
  unfold Tr.Date.round_month_safe
  tr_sdate d hd
  tr_safe_auto

@[tr_safe] theorem Date.trunc_iso_week_safe (d : Int) (hd : isValidDate d) : Tr.Date.trunc_iso_week_safe d := by
  unfold Tr.Date.trunc_iso_week_safe
  tr_sdate d hd
  first | done | tr_dow_cases d

@[tr_safe] theorem Date.round_iso_week_safe (d : Int) (hd : isValidDate d) : Tr.Date.round_iso_week_safe d := by
  unfold Tr.Date.round_iso_week_safe
  tr_sdate d hd
  first | done | tr_dow_cases d

@[tr_safe] theorem Date.round_sunday_start_week_safe (d : Int) (hd : isValidDate d) :
    Tr.Date.round_sunday_start_week_safe d := by
  unfold Tr.Date.round_sunday_start_week_safe
  tr_sdate d hd
  first | done | tr_dow_cases d

@[tr_safe] theorem Date.trunc_quarter_safe (d : Int) (hd : isValidDate d) : Tr.Date.trunc_quarter_safe d := by
  unfold Tr.Date.trunc_quarter_safe
  tr_sdate d hd
  first | done | (tr_quarter; tr_safe_auto)

@[tr_safe] theorem Date.round_quarter_safe (d : Int) (hd : isValidDate d) : Tr.Date.round_quarter_safe d := by
  unfold Tr.Date.round_quarter_safe
  tr_sdate d hd
  first | done | (tr_quarter; tr_safe_auto)

@[tr_safe] theorem Date.trunc_month_start_week_safe (d : Int) (hd : isValidDate d) :
    Tr.Date.trunc_month_start_week_safe d := by
  unfold Tr.Date.trunc_month_start_week_safe
  tr_sdate d hd
  tr_safe_auto

/-- the same for a table index `x % 7` with `x ≥ 0` (values 0..6, and the index is cast `as usize`) -/
macro "tr_rem7_cases" x:term : tactic => `(tactic| (
  have hq := rrem_spec $x 7
  generalize rrem $x 7 = w at *
  have hc : w = 0 ∨ w = 1 ∨ w = 2 ∨ w = 3 ∨ w = 4 ∨ w = 5 ∨ w = 6 := by omega
  rcases hc with h | h | h | h | h | h | h <;> subst h <;> simp [idxD, Tr.asU64] <;> tr_safe_auto))

/-- CONTRACT (crate-internal helper): `day` is a day of the month (non-negative). -/
@[tr_safe] theorem Date.round_month_start_week_internal_safe (d day : Int) (hd : isValidDate d) (hday : fitsI32 day)
    (hc : 0 ≤ day) : Tr.Date.round_month_start_week_internal_safe d day := by
  unfold Tr.Date.round_month_start_week_internal_safe
  try dsimp only
  first | done | tr_rem7_cases day

/-- CONTRACT (crate-internal helper): `year` is a year 0..10000 whose first day is not after the date. -/
@[tr_safe] theorem Date.round_week_internal_safe (d year : Int) (hd : isValidDate d) (hy : 0 ≤ year ∧ year ≤ 10000)
    (hc : Date.fromYmdUnchecked year 1 1 ≤ d) (hc2 : isValidDate (Date.fromYmdUnchecked year 1 1)) :
    Tr.Date.round_week_internal_safe d year := by
  unfold Tr.Date.round_week_internal_safe
  try dsimp only
  try simp (disch := tr_sdisch) only [tr_eq, tr_safe, Date.subDate]
  first | done | tr_rem7_cases (d - Date.fromYmdUnchecked year 1 1)

@[tr_safe] theorem Date.round_week_safe (d : Int) (hd : isValidDate d) : Tr.Date.round_week_safe d := by
  unfold Tr.Date.round_week_safe
  have hf := first_of_year_le d hd
  have hv := first_of_year_valid d hd
  tr_sdate d hd
  tr_safe_auto

@[tr_safe] theorem Date.round_month_start_week_safe (d : Int) (hd : isValidDate d) :
    Tr.Date.round_month_start_week_safe d := by
  unfold Tr.Date.round_month_start_week_safe
  tr_sdate d hd
  tr_safe_auto

end SqlDt.TrSafe
