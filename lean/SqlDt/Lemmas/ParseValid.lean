/-
  Lemmas/ParseValid: whatever `Formatter::parse` returns lies in the type's range (every picture, text, clock).
  Only the last step (`TryFrom<NaiveDateTime>`) matters; the year-month interval additionally needs the parser
  invariant "the month field is never negative".
-/
import SqlDt.Lemmas.ParseStep
import SqlDt.Props.C02
import SqlDt.Model.Serde
namespace SqlDt.Lemmas
open SqlDt Gen Spec SqlDt.Parser

theorem theMonthDayOfDays_month (d : Int) (leap : Bool) (m dd : Int) (h : theMonthDayOfDays d leap = .ok (m, dd)) : 0 ≤ m := by
  unfold theMonthDayOfDays binarySearch at h
  simp only [bind, Except.bind, pure, Except.pure] at h
  split at h
  · cases h
  · cases h; simp

theorem resolveDoy_month (st : St) (dt dt' : NDT) (h : resolveDoy st dt = .ok dt') (hm : 0 ≤ dt.month) : 0 ≤ dt'.month := by
  unfold resolveDoy at h
  split at h
  · cases h; exact hm
  · obtain ⟨⟨m, dd⟩, hv, h⟩ := Chk.bind_eq_ok.1 (Chk.ite_error_eq_ok.1 h).2
    have := theMonthDayOfDays_month _ _ _ _ hv
    -- the month is the one read or the one decoded, whichever of month and day the picture had
    dsimp only at h
    split at h
    · obtain ⟨_, h⟩ := Chk.ite_error_eq_ok.1 h; cases h; exact hm
    · obtain ⟨_, h⟩ := Chk.ite_error_eq_ok.1 h; cases h; exact hm
    · obtain ⟨_, h⟩ := Chk.ite_error_eq_ok.1 h; cases h; exact this
    · cases h; exact this

theorem asU32_nonneg (x : Int) : 0 ≤ asU32 x := by unfold asU32; omega

theorem tryFromNDT_valid (ty : Ty) (dt : NDT) (v : Int) (hm : ty = .YM → 0 ≤ dt.month) (h : tryFromNDT ty dt = .ok v) : ty.Valid v := by
  cases ty <;> simp only [Ty.Valid]
  · exact C02.date_tryFromYmd _ _ _ _ h
  · obtain ⟨_, _, h⟩ := Chk.bind_eq_ok.1 h
    exact C02.time_tryFromUsecs _ _ h
  · obtain ⟨_, _, h⟩ := Chk.bind_eq_ok.1 h
    obtain ⟨_, _, h⟩ := Chk.bind_eq_ok.1 h
    exact C02.ts_tryFromUsecs _ _ h
  · simp only [tryFromNDT] at h
    split at h
    · obtain ⟨w, hw, h⟩ := Chk.bind_eq_ok.1 h
      cases h
      exact C13.ym_negate_valid _ (C13.ym_tryFromYm_valid _ _ _ (asU32_nonneg _) (hm rfl) hw)
    · exact C13.ym_tryFromYm_valid _ _ _ (asU32_nonneg _) (hm rfl) h
  · obtain ⟨_, _, h⟩ := Chk.bind_eq_ok.1 h
    obtain ⟨w, hw, h⟩ := Chk.bind_eq_ok.1 h
    have hv := C02.dt_tryFromUsecs _ _ hw
    cases h
    split
    · exact C13.dt_negate_valid _ hv
    · exact hv
  · obtain ⟨_, _, h⟩ := Chk.bind_eq_ok.1 h
    obtain ⟨_, _, h⟩ := Chk.bind_eq_ok.1 h
    obtain ⟨w, hw, h⟩ := Chk.bind_eq_ok.1 h
    cases h
    exact C16.fromTimestamp_valid _ (C02.ts_tryFromUsecs _ _ hw)

theorem applyDefaults_noDate (ty : Ty) (st : St) (now : Clock) (hty : ty.info.HAS_DATE = false) :
    (applyDefaults ty st now).1 = st.dt := by
  unfold applyDefaults; simp [hty]

theorem parse_valid (ty : Ty) (fields : List Field) (input : Bytes) (now : Clock) (v : Int) (r : Nat)
    (h : Parser.parse ty fields input now = .ok (v, r)) : ty.Valid v := by
  obtain ⟨st, hp, h⟩ := Chk.bind_eq_ok.1 h
  have hmo : 0 ≤ st.dt.month :=
    (((parseFields_post (E := fun _ => True) trivial ty now fields _ fun _ _ _ => trivial).of_ok hp).nonNeg
      (nonNeg_initSt ty input)).month
  obtain ⟨_, h⟩ := Chk.ite_error_eq_ok.1 h
  obtain ⟨dt, hr, h⟩ := Chk.bind_eq_ok.1 h
  have hm : ty = .YM → 0 ≤ dt.month := by
    intro hty; subst hty
    rw [applyDefaults_noDate _ _ _ rfl] at hr
    exact resolveDoy_month st _ _ hr hmo
  -- `finish`: an optional weekday check, then the type's conversion
  unfold finish at h
  split at h
  · obtain ⟨_, _, h⟩ := Chk.bind_eq_ok.1 h
    obtain ⟨_, h⟩ := Chk.ite_error_eq_ok.1 h
    obtain ⟨w, hw, h⟩ := Chk.bind_eq_ok.1 h
    cases h
    exact tryFromNDT_valid ty dt _ hm hw
  · obtain ⟨w, hw, h⟩ := Chk.bind_eq_ok.1 h
    cases h
    exact tryFromNDT_valid ty dt _ hm hw

theorem parseValue_valid (ty : Ty) (text pic : Bytes) (now : Clock) (v : Int) (r : Nat)
    (h : parseValue ty text pic now = .ok (v, r)) : ty.Valid v := by
  obtain ⟨fields, _, h⟩ := Chk.bind_eq_ok.1 h
  exact parse_valid ty fields text now v r h

theorem deStr_valid (ty : Ty) (text : Bytes) (now : Clock) (v : Int) (h : Serde.deStr ty text now = .ok v) : ty.Valid v := by
  unfold Serde.deStr at h
  split at h
  · rename_i v' n hv
    cases h
    exact parseValue_valid _ _ _ _ _ _ hv
  · cases h
  · cases h

end SqlDt.Lemmas
