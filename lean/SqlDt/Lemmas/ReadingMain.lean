/-
  Lemmas/ReadingMain: C05, the main theorem — for every type, every fitting and delimited reading of a picture, every
  clock and any number of trailing blanks, the crate's `parse` returns exactly the value the reading denotes
  (`Spec.denote`), and fails with a proper error (never a panic) exactly when the reading denotes none.  The field loop
  follows `Spec.collect` item by item (`fields_sound`: by `step_sound`, whose facts about the text after an item come
  from `Delimited`); the stages after the loop give `Spec.assemble` (`final_sound`).
-/
import SqlDt.Lemmas.ReadingStep
import SqlDt.Lemmas.ReadingAssemble
import SqlDt.Lemmas.NoPanic
import SqlDt.Props.C05
namespace SqlDt.Lemmas
open SqlDt Gen Spec Parser

/-- the test of clause (c) of `Spec.itemOK` -/
def blankish (l : Lex) : Bool := match l with | .omitted => true | .blank _ => true | _ => false

theorem eatWs_blankish (tb : Nat) : ∀ (later : List (Field × Lex)), later.all (fun q => blankish q.2) = true →
    eatWhitespaces (write later tb) = []
  | [], _ => by simp [write, writeItems, eatWs_spaces_only]
  | (f, l) :: later, h => by
    simp only [List.all_cons, Bool.and_eq_true] at h
    have ih := eatWs_blankish tb later h.2
    unfold write at ih ⊢
    cases l <;> simp [blankish] at h
    · simp only [writeItems, Lex.text, List.append_assoc, eatWs_spaces]; exact ih
    · simp only [writeItems, Lex.text, List.nil_append]; exact ih

theorem localOK_of_itemOK (ty : Ty) (f : Field) (l : Lex) (later : List (Field × Lex)) (tb : Nat)
    (h : itemOK ty f l later (writeItems later) = true) : LocalOK ty f (write later tb) l := by
  have hnext : nextIsDigit (writeItems later) = false → NoDigitHead (write later tb) := fun h =>
    (noDigitHead_iff _).2 (by unfold write; rw [nextIsDigit_append_spaces]; exact h)
  cases l with
  | num b sg z n =>
    simp only [itemOK, Bool.or_eq_true, beq_iff_eq, Bool.not_eq_true'] at h
    exact h.imp (fun h => by rw [numDigits_length]; exact h) hnext
  | frac b ds =>
    simp only [itemOK, Bool.or_eq_true, beq_iff_eq, Bool.not_eq_true'] at h
    exact h.imp (fun h => by simpa [fracBytes] using h) hnext
  | name b k abbr mask =>
    cases abbr with
    | false => trivial
    | true =>
      intro hm
      have hfn : fullName f k = monthNames.getD (k - 1) [] := by
        cases f <;> simp [isMonthToken] at hm <;> rfl
      simp only [itemOK, hm, Bool.not_true, Bool.false_or, Bool.or_eq_true, decide_eq_true_eq, Bool.not_eq_true', hfn] at h
      rcases h with h | h
      · exact Or.inl h
      · by_cases hk : k - 1 < 12
        · right
          unfold write
          rw [startsWithCI_append_spaces _ _ _ (month_tail_noblank (k - 1) hk)]; exact h
        · left
          have : monthNames.getD (k - 1) [] = [] := by
            rw [List.getD_eq_getElem?_getD, List.getElem?_eq_none (by simp [monthNames]; omega)]; rfl
          rw [this]; simp
  | omitted =>
    simp only [itemOK] at h
    apply eatWs_blankish tb later
    rw [List.all_eq_true] at h ⊢
    intro q hq
    have := h q hq
    unfold blankish
    split at this <;> simp_all
  | _ => trivial

theorem write_cons (f : Field) (l : Lex) (later : List (Field × Lex)) (tb : Nat) :
    write ((f, l) :: later) tb = l.text f ++ write later tb := by
  simp [write, writeItems, List.append_assoc]

theorem fields_sound (ty : Ty) (now : Clock) (tb : Nat) : ∀ (items : List (Field × Lex)) (p : Parts) (st : St),
    (∀ q ∈ items, Field.WellFormed q.1) → (∀ q ∈ items, q.2.fits ty q.1 = true) → delimitedFrom ty items = true →
    PartsOK ty p → Tracks ty (write items tb) p st →
    Option.Rel (Tracks ty []) (collect ty now p items) (Chk.val? (parseFields ty now st (items.map Prod.fst)))
  | [], p, st, _, _, _, _, ⟨s, r, hst, hs⟩ =>
    .some ⟨s, r, hst, by rw [hs]; simp [write, writeItems, eatWs_spaces_only, eatWs_nil]⟩
  | (f, l) :: later, p, st, hwf, hfit, hdel, hg, htr => by
    simp only [delimitedFrom, Bool.and_eq_true] at hdel
    rw [write_cons] at htr
    simp only [collect, List.map_cons, parseFields, Chk.val?_bind]
    refine rel_bind (step_sound ty now p st f l (write later tb) (hwf (f, l) (by simp)) (hfit (f, l) (by simp))
      (localOK_of_itemOK ty f l later tb hdel.1) hg.meridian htr) fun p1 st1 hst htr1 => ?_
    exact fields_sound ty now tb later p1 st1 (fun q hq => hwf q (by simp [hq])) (fun q hq => hfit q (by simp [hq]))
      hdel.2 (step_partsOK ty now p p1 f l hst (hfit (f, l) (by simp)) hg) htr1

/-- C05 as an equation; `parse_reading` below spells out its two cases and adds that the error is not a panic. -/
theorem parse_val (ty : Ty) (items : List (Field × Lex)) (tb : Nat) (now : Clock)
    (hwf : ∀ p ∈ items, Field.WellFormed p.1)
    (hfit : ∀ p ∈ items, Lex.fits ty p.1 p.2 = true) (hdel : Delimited ty items = true) :
    (Chk.val? (parse ty (items.map Prod.fst) (write items tb) now)).map Prod.fst = denote ty items now := by
  have hloop := fields_sound ty now tb items {} (initSt ty (write items tb)) hwf hfit hdel (partsOK_init ty)
    ⟨_, 0, (conc_init ty _).symm, rfl⟩
  unfold parse denote
  rw [Chk.val?_bind]
  refine rel_map.1 (rel_bind hloop ?_)
  rintro p' _ hc ⟨s', r', rfl, hs'⟩
  have hend : eatWhitespaces (conc ty p' s' r').s = [] := hs'
  rw [hend, if_neg (by simp)]
  exact rel_map.2 (final_sound ty now p' s' r' (collect_partsOK ty now items {} p' hc hfit (partsOK_init ty)))

/-- **C05.**  `items` is a reading of the picture `items.map Prod.fst`: each token is written in one of the ways the
    documentation allows (`Lex.fits`: unpadded numbers, leading '+', extra blanks, any letter case, month names for `MM`,
    trailing time fields left out, up to nine fraction digits …), unambiguously for a left-to-right reader (`Delimited`).
    A reading denotes no value when a component is out of range, redundant fields disagree, a code repeats or does not
    apply: parsing then fails with an error of the crate, never a silently normalised value. -/
theorem parse_reading (ty : Ty) (items : List (Field × Lex)) (tb : Nat) (now : Clock)
    (hwf : ∀ p ∈ items, Field.WellFormed p.1)
    (hfit : ∀ p ∈ items, Lex.fits ty p.1 p.2 = true) (hdel : Delimited ty items = true) :
    match denote ty items now with
    | some v => ∃ r, Parser.parse ty (items.map Prod.fst) (write items tb) now = .ok (v, r)
    | none => ∃ e, Parser.parse ty (items.map Prod.fst) (write items tb) now = .error e ∧ e ≠ .Panic := by
  have hval := parse_val ty items tb now hwf hfit hdel
  have hnp : parse ty (items.map Prod.fst) (write items tb) now ≠ .error .Panic :=
    parse_np ty _ _ now fun f hf => by obtain ⟨q, hq, rfl⟩ := List.mem_map.1 hf; exact hwf q hq
  rw [← hval]
  cases hp : parse ty (items.map Prod.fst) (write items tb) now with
  | ok v => exact ⟨v.2, rfl⟩
  | error e => exact ⟨e, rfl, fun h => hnp (h ▸ hp)⟩

/-- Leftover input is rejected (already in Props/C05, for every picture, text and clock). -/
theorem leftover (ty : Ty) (fields : List Field) (input : Bytes) (now : Clock) (st : St)
    (h1 : parseFields ty now (initSt ty input) fields = .ok st) (h2 : (eatWhitespaces st.s).isEmpty = false) :
    parse ty fields input now = .error .ParseError := C05.leftover_rejected ty fields input now st h1 h2

#print axioms parse_reading

end SqlDt.Lemmas
