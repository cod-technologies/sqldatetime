/-
  Lemmas/Consts: the crate's derived constants and validity predicates as numerals, its unchecked constructors as
  linear forms.
-/
import SqlDt.Model.Types
import SqlDt.Lemmas.Basic
namespace SqlDt
open Gen

theorem UNIX_EPOCH_JULIAN_eq : UNIX_EPOCH_JULIAN = 2440588 := by decide
theorem DATE_MIN_JULIAN_eq : DATE_MIN_JULIAN = 1721426 := by decide
theorem DATE_MAX_JULIAN_eq : DATE_MAX_JULIAN = 5373484 := by decide
theorem DATE_MIN_DAYS_eq : DATE_MIN_DAYS = -719162 := by decide
theorem DATE_MAX_DAYS_eq : DATE_MAX_DAYS = 2932896 := by decide
theorem TIMESTAMP_MIN_eq : TIMESTAMP_MIN = -62135596800000000 := by decide
theorem TIMESTAMP_MAX_eq : TIMESTAMP_MAX = 253402300799999999 := by decide

theorem isValidDate_iff (d : Int) : isValidDate d ↔ -719162 ≤ d ∧ d ≤ 2932896 := by
  unfold isValidDate; rw [DATE_MIN_DAYS_eq, DATE_MAX_DAYS_eq]

theorem isValidTimestamp_iff (t : Int) :
    isValidTimestamp t ↔ -62135596800000000 ≤ t ∧ t ≤ 253402300799999999 := by
  unfold isValidTimestamp; rw [TIMESTAMP_MIN_eq, TIMESTAMP_MAX_eq]

theorem isValidTime_iff (t : Int) : isValidTime t ↔ 0 ≤ t ∧ t < 86400000000 := by
  unfold isValidTime USECONDS_PER_DAY; omega

theorem IntervalYM.isValidMonths_iff (m : Int) : IntervalYM.isValidMonths m ↔ -2136000000 ≤ m ∧ m ≤ 2136000000 := by
  unfold IntervalYM.isValidMonths INTERVAL_MAX_MONTH; omega

theorem IntervalDT.isValidUsecs_iff (u : Int) :
    IntervalDT.isValidUsecs u ↔ -8640000000000000000 ≤ u ∧ u ≤ 8640000000000000000 := by
  unfold IntervalDT.isValidUsecs INTERVAL_MAX_USECONDS; omega

theorem Timestamp.new_eq (d t : Int) : Timestamp.new d t = d * 86400000000 + t := rfl

theorem Time.fromHmsUnchecked_eq (h mi s us : Int) :
    Time.fromHmsUnchecked h mi s us = h * 3600000000 + mi * 60000000 + s * 1000000 + us := rfl

theorem IntervalDT.fromDhmsUnchecked_eq (d h mi s us : Int) :
    IntervalDT.fromDhmsUnchecked d h mi s us =
      d * 86400000000 + (h * 3600000000 + mi * 60000000 + s * 1000000 + us) := rfl

end SqlDt
