/-
  Lemmas/Digits: decimal digit strings.  The digit loop of `write_u32` (Model/Format, 11 rounds) produces the zero-padded
  decimal of Spec/Render (20 rounds) below 10^11; that decimal consists of digit bytes, is never empty and has at most
  `w` digits for a number below `10 ^ w` – for every number: the lemmas on `digitsAux` hold for any fuel.
  Fuel is passed as the `f` of `f + 1`: 19 stands for the 20 rounds, 10 for the 11, 18 for 20 with one round spent.
-/
import SqlDt.Spec.Render
namespace SqlDt
open Spec

theorem digitsAux_eq_digitsRev : ∀ (f g v : Nat) (acc : Bytes), v < 10 ^ (f + 1) → v < 10 ^ (g + 1) →
    digitsAux (f + 1) v acc = (digitsRev (g + 1) v).reverse ++ acc := by
  intro f
  induction f with
  | zero =>
    intro g v acc hf _
    have h : v < 10 := by simpa using hf
    simp [digitsAux, digitsRev, h, Nat.not_le.2 h]
  | succ f ih =>
    intro g v acc hf hg
    unfold digitsAux digitsRev
    by_cases h : v < 10
    · simp [h, Nat.not_le.2 h]
    · obtain ⟨g, rfl⟩ : ∃ k, g = k + 1 := ⟨g - 1, by rw [Nat.pow_succ] at hg; cases g <;> omega⟩
      rw [Nat.pow_succ] at hf hg
      rw [if_neg h, if_pos (by omega), ih g (v / 10) _ (by omega) (by omega)]
      simp

theorem displayU32_eq_digits (v : Nat) (hv : v < 100000000000) : displayU32 (Int.ofNat v) = Spec.digits v := by
  unfold displayU32 Spec.digits
  rw [digitsAux_eq_digitsRev 19 10 v [] (by omega) (by omega)]
  simp

theorem writeU32_eq_pad (v w : Nat) (hv : v < 100000000000) : writeU32 (Int.ofNat v) w = Spec.pad w v := by
  show List.replicate (w - (displayU32 (Int.ofNat v)).length) 48 ++ displayU32 (Int.ofNat v) = _
  rw [displayU32_eq_digits v hv]; rfl

namespace Lemmas

def Digs (ds : Bytes) : Prop := ∀ d ∈ ds, isDigitB d = true

theorem digs_cons {d : Nat} {ds : Bytes} (hd : d ≤ 9) (h : Digs ds) : Digs ((d + 48) :: ds) := by
  intro b hb
  rcases List.mem_cons.1 hb with rfl | hb
  · simp [isDigitB]; omega
  · exact h b hb

theorem digitsAux_digs : ∀ (f n : Nat) (acc : Bytes), Digs acc → Digs (digitsAux f n acc)
  | 0, _, _, h => h
  | f + 1, n, acc, h => by
    unfold digitsAux
    split
    · exact digs_cons (by omega) h
    · exact digitsAux_digs f _ _ (digs_cons (by omega) h)

theorem digitsAux_length_gt : ∀ (f n : Nat) (acc : Bytes), acc.length < (digitsAux (f + 1) n acc).length
  | 0, n, acc => by unfold digitsAux; split <;> simp [digitsAux]
  | f + 1, n, acc => by
    unfold digitsAux
    split
    · simp
    · exact Nat.lt_trans (Nat.lt_succ_self _) (digitsAux_length_gt f (n / 10) ((n % 10 + 48) :: acc))

theorem digitsAux_length_le : ∀ (f n w : Nat) (acc : Bytes), 1 ≤ w → n < 10 ^ w →
    (digitsAux f n acc).length ≤ w + acc.length
  | 0, _, _, _, _, _ => Nat.le_add_left _ _
  | f + 1, n, w, acc, hw, hn => by
    unfold digitsAux
    split
    · rw [List.length_cons]; omega
    · obtain ⟨w, rfl⟩ : ∃ k, w = k + 1 := ⟨w - 1, by omega⟩
      rw [Nat.pow_succ] at hn
      have hw' : 1 ≤ w := by rcases w with _ | k <;> omega
      have := digitsAux_length_le f (n / 10) w ((n % 10 + 48) :: acc) hw' (by omega)
      rw [List.length_cons] at this
      omega

theorem digits_digs (n : Nat) : Digs (digits n) := digitsAux_digs 20 n [] fun _ h => nomatch h

theorem digits_ne_nil (n : Nat) : digits n ≠ [] :=
  List.ne_nil_of_length_pos (digitsAux_length_gt 19 n [])

theorem digits_length_le (n w : Nat) (hw : 1 ≤ w) (h : n < 10 ^ w) : (digits n).length ≤ w :=
  digitsAux_length_le 20 n w [] hw h

theorem digits_length_ge2 (n : Nat) (h : 10 ≤ n) : 2 ≤ (digits n).length := by
  unfold digits digitsAux
  rw [if_neg (by omega)]
  exact digitsAux_length_gt 18 (n / 10) [n % 10 + 48]

theorem pad_of_long (w n : Nat) (h : w ≤ (digits n).length) : pad w n = digits n := by
  unfold pad
  have : w - (digits n).length = 0 := by omega
  simp [this]

theorem pad_digs (w n : Nat) : Digs (pad w n) := by
  intro d hd
  simp only [pad, List.mem_append, List.mem_replicate] at hd
  rcases hd with ⟨_, rfl⟩ | hd
  · decide
  · exact digits_digs n d hd

theorem pad_length (w n : Nat) (hw : 1 ≤ w) (h : n < 10 ^ w) : (pad w n).length = w := by
  have := digits_length_le n w hw h
  unfold pad; simp; omega

theorem pad_length_le (w k n : Nat) (hw : w ≤ k) (hk : 1 ≤ k) (h : n < 10 ^ k) : (pad w n).length ≤ k := by
  have := digits_length_le n k hk h
  unfold pad; simp; omega

theorem map_sub_add (bs : Bytes) (h : Digs bs) : (bs.map (· - 48)).map (· + 48) = bs := by
  rw [List.map_map, List.map_congr_left (g := id) _, List.map_id]
  intro b hb
  have := h b hb
  simp only [isDigitB, Bool.and_eq_true, decide_eq_true_eq] at this
  simp only [Function.comp_apply, id_eq]; omega

theorem digs_values (bs : Bytes) (h : Digs bs) : (bs.map (· - 48)).all (· ≤ 9) = true := by
  simp only [List.all_map, List.all_eq_true, Function.comp_apply, decide_eq_true_eq]
  intro b hb
  have := h b hb
  simp only [isDigitB, Bool.and_eq_true, decide_eq_true_eq] at this
  omega

end Lemmas

end SqlDt
