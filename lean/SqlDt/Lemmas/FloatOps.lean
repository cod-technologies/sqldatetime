/-
  Lemmas/FloatOps: the operations of the crate's types that return or take a double, where the operands convert
  exactly.  `second()` of a time and of an interval and `oracle::Date::sub_date` divide two such integers, so the
  result is the exact quotient rounded once (`div_ofInt`); `Timestamp::add_days` on an offset whose computed product
  with `86400e6` is the double of an integer `|n| ≤ 2^53` adds that integer.
-/
import SqlDt.Lemmas.FloatExact
import SqlDt.Lemmas.Consts
namespace SqlDt.Lemmas
open Gen

theorem Time.second_eq (t : Int) (ht : 0 ≤ t ∧ t < 86400000000) :
    Time.second t = F64.round false (t % 60000000).toNat 1000000 := by
  unfold Time.second rrem
  rw [show USECONDS_PER_MINUTE = 60000000 from rfl, show USECONDS_PER_SECOND = 1000000 from rfl, if_pos ht.1]
  obtain ⟨m, e, hc, _, hv⟩ := exists_canon_nat (t % 60000000).natAbs (by omega)
  rw [div_ofInt _ _ hc hv (by decide) (by decide), decide_eq_false (by omega : ¬ t % 60000000 < 0),
    show (t % 60000000).natAbs = (t % 60000000).toNat by omega]
  rfl

/-- The signed `second()` of a day-time interval: the sub-minute part over `10^6`, rounded once, with the sign of the
    interval unless that part is 0 (then `+0.0`; the second disjunct is this case of the first). -/
theorem IntervalDT.second_eq (v : Int) (hv : -8640000000000000000 ≤ v ∧ v ≤ 8640000000000000000) :
    IntervalDT.second v = F64.round (decide (v < 0 ∧ v.natAbs % 60000000 ≠ 0)) (v.natAbs % 60000000) 1000000 ∨
    (v < 0 ∧ v.natAbs % 60000000 = 0 ∧ IntervalDT.second v = F64.zero false) := by
  unfold IntervalDT.second
  rw [show USECONDS_PER_MINUTE = 60000000 from rfl, show USECONDS_PER_SECOND = 1000000 from rfl]
  obtain ⟨m, e, hc, _, hm⟩ := exists_canon_nat (rrem v 60000000).natAbs (by unfold rrem; split <;> omega)
  rw [div_ofInt _ _ hc hm (by decide) (by decide)]
  have hr : (rrem v 60000000).natAbs = v.natAbs % 60000000 := by unfold rrem; split <;> omega
  have hs : (rrem v 60000000 < 0) ↔ (v < 0 ∧ v.natAbs % 60000000 ≠ 0) := by unfold rrem; split <;> omega
  rw [hr, decide_eq_decide.mpr hs]
  exact .inl rfl

theorem OracleDate.subDate_eq (a b : Int) (ha : OracleDate.isValidDate a) (hb : OracleDate.isValidDate b) (hne : a ≠ b) :
    OracleDate.subDate a b = F64.round (decide (a - b < 0)) (a - b).natAbs 86400000000 := by
  unfold OracleDate.isValidDate rrem USECONDS_PER_SECOND at ha hb
  rw [isValidTimestamp_iff] at ha hb
  have ha4 : a % 1000000 = 0 := by have := ha.2; split at this <;> omega
  have hb4 : b % 1000000 = 0 := by have := hb.2; split at this <;> omega
  -- the difference is a multiple of `10^6 = 15625·2^6` below `2^59`
  obtain ⟨m, e, hc, _, hv⟩ := exists_canon ((a - b).natAbs / 1000000 * 15625) 6 (by omega) (by decide)
  unfold OracleDate.subDate
  rw [show USECONDS_PER_DAY = 86400000000 from rfl,
    div_ofInt _ _ hc (by rw [hv]; exact_mod_cast (by omega)) (by decide) (by decide)]
  rfl

theorem Timestamp.addDays_exact (ts n : Int) (x : F64) (hn : n.natAbs ≤ 9007199254740992)
    (hx : F64.mul x (F64.ofInt 86400000000) = F64.ofInt n) :
    Timestamp.addDays ts x =
      (match checkedI64 (ts + n) with
       | some r => Timestamp.tryFromUsecs r
       | none => .error .DateOutOfRange) := by
  unfold Timestamp.addDays
  have : USECONDS_PER_DAY = 86400000000 := rfl
  dsimp only
  rw [this, hx, F64.roundHalfAway_ofInt n hn, F64.toI64_ofInt n hn]
  obtain ⟨m, e, h1, _⟩ := ofInt_exact n hn
  rw [h1]
  simp only [F64.isInfinite, F64.isNan, Bool.false_eq_true, ↓reduceIte]
  rfl

end SqlDt.Lemmas
