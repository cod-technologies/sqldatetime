/-
  Lemmas/ReadingConc: the setting of the per-token simulation.  Of the specification alone: the paths of `Spec.step`
  that fail whatever the lexeme (`taken`), the invariant of `Spec.collect` (`PartsOK`).  Then the parser state of the
  components collected so far (`conc`), how a stage of the specification is compared with a stage of the crate, the
  goal for one token (`StepGoal`), how the 12-hour clock is stored, and the parser on the paths where both sides fail
  without a look at the text: the token does not apply to the type, or its component is taken.
-/
import SqlDt.Lemmas.ReadingNames
import SqlDt.Lemmas.ReadingClauses
namespace SqlDt.Lemmas
open SqlDt Gen Spec Parser

theorem hasDate_iff (ty : Ty) : hasDate ty = true ↔ ty = .D ∨ ty = .TS ∨ ty = .OD := by simp [hasDate, or_assoc]

theorem maxDigits_eq (ty : Ty) (f : Field) : maxDigits ty f =
    match f with
    | .Year w => if ty = .YM then 9 else if w = 2 then 4 else w
    | .Day => if ty = .DT then 9 else 2
    | .Month | .Hour24 | .Hour12 | .Minute | .Second => 2
    | .DayOfYear => 3
    | .Fraction p => p.getD 9
    | _ => 0 := by
  cases ty <;> cases f <;> rfl

theorem hasTime_of_clock12 (ty : Ty) (h : clock12 ty = true) : hasTime ty = true ∧ ty ≠ .DT := by
  cases ty <;> simp [clock12, hasTime] at h ⊢

/-- The component the token would record is there already (for the hour and meridian tokens: or is excluded by what
    was read). -/
def taken (p : Parts) : Field → Bool
  | .Year _ => p.year.isSome
  | .Month | .MonthName _ => p.month.isSome
  | .Day => p.day.isSome
  | .Hour24 => p.hour.isSome || p.meridianSeen
  | .Hour12 => p.hour.isSome
  | .Minute => p.minute.isSome
  | .Second => p.second.isSome
  | .Fraction _ => p.usec.isSome
  | .AmPm _ => p.meridianSeen || p.hour.any (·.1)
  | .DayName _ | .DayOfWeek => p.dow.isSome
  | .DayOfYear => p.doy.isSome
  | _ => false

theorem step_blocked (ty : Ty) (now : Clock) (p : Parts) (f : Field) (l : Lex)
    (h : (!applicable ty f || taken p f) = true) : step ty now p f l = none := by
  revert h
  -- One case per path through `Spec.step`: on a path that succeeds the hypotheses of the path contradict `h`.
  -- (`fun_cases` generates auxiliary declarations for `step`; a module that runs it on `step` as well has to import this
  -- one: two modules that generated them independently cannot be imported together.)
  fun_cases step ty now p f l
  all_goals first | exact fun _ => rfl | skip
  all_goals simp_all [taken]

/-- The invariant of `Spec.collect` on fitting lexemes: what the final stage (`ymYear`, `odUsec`, `noDate`) and the
    meridian token (`meridian`) use of the components collected. -/
structure PartsOK (ty : Ty) (p : Parts) : Prop where
  ymYear : ty = .YM → ∀ y, p.year = some y → 0 ≤ y ∧ y < 1000000000
  odUsec : ty = .OD → p.usec = none
  noDate : hasDate ty = false → p.doy = none ∧ p.dow = none
  meridian : p.meridian.isSome = true → p.meridianSeen = true

theorem partsOK_init (ty : Ty) : PartsOK ty ({} : Parts) :=
  ⟨fun _ _ h => (nomatch h), fun _ => rfl, fun _ => ⟨rfl, rfl⟩, fun h => (nomatch h)⟩

theorem step_partsOK (ty : Ty) (now : Clock) (p p' : Parts) (f : Field) (l : Lex)
    (h : step ty now p f l = some p') (hfit : l.fits ty f = true) (hp : PartsOK ty p) : PartsOK ty p' := by
  revert h hfit
  -- one case per path through `Spec.step`: the failing paths go by `cases h`, and a path that leaves year, fraction,
  -- weekday, day of year and meridian alone keeps the invariant as it is; eight paths remain
  fun_cases step ty now p f l
  all_goals intro h hfit
  all_goals cases h
  all_goals first | exact ⟨hp.1, hp.2, hp.3, hp.4⟩ | rename_i happ
  · -- year: an interval year is taken as written, and `fits` bounds it
    refine ⟨fun hty y hy => ?_, hp.2, hp.3, hp.4⟩
    subst hty; cases hy
    simp [Lex.fits, applicable] at hfit
    simp [completeYear]; omega
  -- fraction, written or left out: does not apply to the Oracle-style date
  · exact ⟨hp.1, fun hty => absurd (by subst hty; rfl) happ, hp.3, hp.4⟩
  · exact ⟨hp.1, fun hty => absurd (by subst hty; rfl) happ, hp.3, hp.4⟩
  -- meridian, written or left out: seen
  · exact ⟨hp.1, hp.2, hp.3, fun _ => rfl⟩
  · exact ⟨hp.1, hp.2, hp.3, fun _ => rfl⟩
  -- weekday name, weekday number, day of year: apply to the types with a date only
  · exact ⟨hp.1, hp.2, fun hty => absurd (by simp [applicable, hty]) happ, hp.4⟩
  · exact ⟨hp.1, hp.2, fun hty => absurd (by simp [applicable, hty]) happ, hp.4⟩
  · exact ⟨hp.1, hp.2, fun hty => absurd (by simp [applicable, hty]) happ, hp.4⟩

theorem collect_partsOK (ty : Ty) (now : Clock) : ∀ (items : List (Field × Lex)) (p p' : Parts),
    collect ty now p items = some p' → (∀ q ∈ items, q.2.fits ty q.1 = true) → PartsOK ty p → PartsOK ty p'
  | [], p, p', h, _, hp => Option.some.inj h ▸ hp
  | (f, l) :: rest, p, p', h, hfit, hp => by
    obtain ⟨p1, hs, h⟩ := Option.bind_eq_some_iff.1 h
    exact collect_partsOK ty now rest p1 p' h (fun q hq => hfit q (by simp [hq]))
      (step_partsOK ty now p p1 f l hs (hfit (f, l) (by simp)) hp)

/-- the year as the crate stores it: negated for a negative year-month interval; when no year was read: 1
    (0 for a year-month interval) -/
def yearRep (ty : Ty) (p : Parts) : Int :=
  match p.year with
  | some y => if ty = .YM ∧ p.neg = true then -y else y
  | none => if ty = .YM then 0 else 1

/-- the day as the crate stores it; when no day was read: 1 (0 for a day-time interval) -/
def dayRep (ty : Ty) (p : Parts) : Int :=
  match p.day with
  | some d => (d : Int)
  | none => if ty = .DT then 0 else 1

/-- The concrete counterpart of `p` (hence the name): the parser state after the items that produced `p`, with `s` still
    to read. -/
def conc (ty : Ty) (p : Parts) (s : Bytes) (reads : Nat) : St :=
  { s := s,
    dt := { year := yearRep ty p, month := ((p.month.getD 0 : Nat) : Int), day := dayRep ty p,
            hour := ((hourOf p : Nat) : Int), minute := ((p.minute.getD 0 : Nat) : Int),
            sec := ((p.second.getD 0 : Nat) : Int), usec := ((p.usec.getD 0 : Nat) : Int),
            ampm := p.meridian, negative := p.neg },
    isYearSet := p.year.isSome, isMonthSet := p.month.isSome, isDaySet := p.day.isSome,
    isHour24Set := p.hour.map (·.1), isMinSet := p.minute.isSome, isSecSet := p.second.isSome,
    isFractionSet := p.usec.isSome, isAmPmSet := p.meridianSeen, dow := p.dow.map Int.ofNat, doy := p.doy.map Int.ofNat, reads := reads }

theorem conc_init (ty : Ty) (input : Bytes) : conc ty {} input 0 = initSt ty input := by cases ty <;> rfl

/-! ### the specification against the crate

    The specification only says "error" (`none`), so a stage of it is compared with the VALUE of the crate's stage
    (`Chk.val?`): by an equation where the specification determines that value, by `Option.Rel` where it only
    constrains it (the text left and the clock reads are the crate's own). -/

section
variable {α β γ δ : Type} {R : α → β → Prop} {S : γ → δ → Prop} {o : Option α} {o' : Option β}

/-- Two stages in sequence: the second may use what the first stage of the specification returned. -/
theorem rel_bind {f : α → Option γ} {g : β → Option δ} (h : Option.Rel R o o')
    (hf : ∀ a b, o = some a → R a b → Option.Rel S (f a) (g b)) : Option.Rel S (o.bind f) (o'.bind g) := by
  cases h with
  | none => exact .none
  | some hab => exact hf _ _ rfl hab

theorem rel_map {f : β → α} : Option.Rel (fun a b => f b = a) o o' ↔ o'.map f = o := by
  constructor
  · rintro (⟨rfl⟩ | _) <;> rfl
  · rintro rfl; cases o' <;> constructor; rfl

end

/-- The parser state `st` is the one of the components `p`, and the text it has still to read differs from `rest` by
    leading blanks at most. -/
def Tracks (ty : Ty) (rest : Bytes) (p : Parts) (st : St) : Prop :=
  ∃ s r, st = conc ty p s r ∧ eatWhitespaces s = eatWhitespaces rest

/-- One token simulated: `Spec.step` on `p` and `parseField` from the state of `p` fail together, or succeed with results
    related by `Tracks`. -/
def StepGoal (ty : Ty) (now : Clock) (p : Parts) (s : Bytes) (r : Nat) (f : Field) (l : Lex) (rest : Bytes) : Prop :=
  Option.Rel (Tracks ty rest) (step ty now p f l) (Chk.val? (parseField ty now (conc ty p s r) f))

/-! ### the 12-hour clock: the crate adjusts the stored hour by the meridian, at whichever of the two tokens comes
    second, as `hourOf` does at the end -/

theorem conc_hour12 (ty : Ty) (p : Parts) (s : Bytes) (r : Nat) (n : Nat) :
    ({ (conc ty p s r).dt with hour := (n : Int) } : NDT).adjustHour12 =
      (conc ty { p with hour := some (false, n) } s r).dt := by
  cases hm : p.meridian with
  | none => simp [conc, yearRep, dayRep, hourOf, hm, NDT.adjustHour12]
  | some pm => cases pm <;> simp [conc, yearRep, dayRep, hourOf, hm, NDT.adjustHour12] <;> split <;> omega

theorem conc_ampm (ty : Ty) (p : Parts) (s : Bytes) (r : Nat) (pm : Bool) (hm : p.meridian = none)
    (h24 : p.hour.any (·.1) = false) :
    ({ (conc ty p s r).dt with ampm := some pm } : NDT).adjustHour12 =
      (conc ty { p with meridianSeen := true, meridian := some pm } s r).dt := by
  cases hh : p.hour with
  | none => cases pm <;> simp [conc, yearRep, dayRep, hourOf, hh, hm, NDT.adjustHour12]
  | some v =>
    obtain ⟨is24, h⟩ := v
    cases is24 with
    | true => simp [hh] at h24
    | false => cases pm <;> simp [conc, yearRep, dayRep, hourOf, hh, hm, NDT.adjustHour12] <;> split <;> omega

theorem meridian_free {p : Parts} (hmi : p.meridian.isSome = true → p.meridianSeen = true)
    (htk : p.meridianSeen = false ∧ p.hour.any (·.1) = false) :
    p.meridian = none ∧ ¬ p.hour.map (·.1) = some true := by
  constructor
  · cases hm : p.meridian with
    | none => rfl
    | some v => have := hmi (by simp [hm]); rw [htk.1] at this; cases this
  · rcases hh : p.hour with _ | ⟨_ | _, _⟩ <;> simp [hh] at htk ⊢

theorem filled_conc (ty : Ty) (p : Parts) (s : Bytes) (r : Nat) (f : Field) : filled (conc ty p s r) f = taken p f := by
  cases f <;> simp only [filled, taken, conc, Option.isSome_map]
  case AmPm => rcases p.hour with _ | ⟨_ | _, _⟩ <;> rfl

theorem parseField_blocked (ty : Ty) (now : Clock) (p : Parts) (s : Bytes) (r : Nat) (f : Field)
    (h : (!applicable ty f || taken p f) = true) : Chk.val? (parseField ty now (conc ty p s r) f) = none := by
  by_cases happ : applicable ty f = true
  · rw [parseField_filled (by rw [filled_conc]; simpa [happ] using h)]; rfl
  · by_cases hf : f = .Invalid
    · subst hf; rfl
    · rw [parseField_inapplicable ty now _ (by simpa using happ) hf]; rfl

end SqlDt.Lemmas
