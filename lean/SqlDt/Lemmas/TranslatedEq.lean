/-
  Lemmas/TranslatedEq (hand-written, stable): for every whitelisted function `f` of the integer core,
  `Tr.f args = f args` (the model's function) for all arguments in the ranges of the parameter types.  The proofs do not
  depend on how the Rust is written: both sides are unfolded and `tr_auto` does the rest; where it needs a fact about
  the model beforehand (a range, what a callee returns) or the model opened later, that fact is stated first and the
  proof goes through `tr_unit_eq` / `tr_ymd` or (`OracleDate.add_days_eq`, `Timestamp.try_from_ndt_eq`) a few scripted steps
  that end in `tr_auto`.
  A function that the translator could not translate is an alias of the model function, and the same proof goes through.
  The linter options: the hypotheses are the ranges of the parameter types by convention, whether or not the present
  body needs them (a refactored one may); the simp lists are supersets on purpose.
-/
import SqlDt.Translated
import SqlDt.Lemmas.TrAttr
import SqlDt.Lemmas.Div
import SqlDt.Model.Parse
set_option linter.unusedVariables false
set_option linter.unusedSimpArgs false
namespace SqlDt.TrEq
open SqlDt SqlDt.Gen SqlDt.TrTactic

theorem asI32_eq {x : Int} (h1 : -2147483648 ≤ x) (h2 : x ≤ 2147483647) : asI32 x = x := by
  unfold asI32; simp only []; split <;> omega
theorem asU32_eq {x : Int} (h1 : 0 ≤ x) (h2 : x ≤ 4294967295) : asU32 x = x := by
  unfold asU32; omega
theorem asU64_eq {x : Int} (h1 : 0 ≤ x) (h2 : x ≤ 18446744073709551615) : Tr.asU64 x = x := by
  unfold Tr.asU64; omega
theorem asI64_eq {x : Int} (h1 : -9223372036854775808 ≤ x) (h2 : x ≤ 9223372036854775807) : Tr.asI64 x = x := by
  unfold Tr.asI64; simp only []; split <;> omega

attribute [tr_num] MONTHS_PER_YEAR HOURS_PER_DAY MINUTES_PER_HOUR SECONDS_PER_MINUTE USECONDS_MAX USECONDS_PER_DAY
  USECONDS_PER_HOUR USECONDS_PER_MINUTE USECONDS_PER_SECOND DATE_MIN_YEAR DATE_MAX_YEAR INTERVAL_MAX_YEAR INTERVAL_MAX_DAY
  INTERVAL_MAX_MONTH INTERVAL_MAX_USECONDS UNIX_EPOCH_DOW SqlDt.UNIX_EPOCH_JULIAN_eq SqlDt.DATE_MIN_JULIAN_eq
  SqlDt.DATE_MAX_JULIAN_eq SqlDt.DATE_MIN_DAYS_eq SqlDt.DATE_MAX_DAYS_eq SqlDt.TIMESTAMP_MIN_eq SqlDt.TIMESTAMP_MAX_eq
  DAYS_OF_MONTH_TABLE SUM_OF_DAYS_TABLE isValidDate isValidTimestamp isValidTime IntervalYM.isValidMonths
  IntervalDT.isValidUsecs OracleDate.isValidDate fitsI32 fitsI64 fitsU32 Tr.fitsI8 Tr.fitsI16 Tr.fitsU8 Tr.fitsU16 Tr.fitsU64
  I32_MIN I32_MAX I64_MIN I64_MAX U32_MAX U8_MAX

attribute [tr_model] Timestamp.new Timestamp.extract Timestamp.date Timestamp.time Timestamp.subTimestamp Timestamp.subDate
  Timestamp.tryFromUsecs Time.fromHmsUnchecked Time.extract Time.subTime Time.addIntervalDt Time.subIntervalDt
  Time.fromIntervalDt Time.tryFromUsecs Time.hour Timestamp.hour IntervalYM.negate IntervalYM.extract IntervalYM.tryFromMonths
  IntervalDT.negate IntervalDT.extract IntervalDT.fromDhmsUnchecked IntervalDT.tryFromUsecs Date.fromYmdUnchecked Date.subDate
  Date.dayOfWeek Date.tryFromDays OracleDate.new OracleDate.fromTimestamp OracleDate.tryFromUsecs OracleDate.subDays
  Timestamp.subDays checkedI32 checkedI64

attribute [tr_unit] Date.trunc Date.round Date.truncCentury Date.truncYear Date.truncIsoYear Date.truncQuarter Date.truncMonth
  Date.truncWeek Date.truncIsoWeek Date.truncMonthStartWeek Date.truncSundayStartWeek Date.roundCentury Date.roundYear
  Date.roundIsoYear Date.roundQuarter Date.roundMonth Date.roundWeek Date.roundIsoWeek Date.roundMonthStartWeek
  Date.roundSundayStartWeek Date.roundWeekInternal Date.roundMonthStartWeekInternal Date.applyWeekTable Date.year Date.month
  Date.day

attribute [tr_unit_ts] Timestamp.trunc Timestamp.round Timestamp.hour Time.hour OracleDate.trunc OracleDate.round

/-- `simp only [s] at …` for simp sets `s` of definitions, the definitional part first and with `dsimp +instances`:
    `simp only [f]` leaves the `Decidable` instance of an `if` whose condition mentions `f` as it was, and `split`,
    `generalize` and `rfl` then do not see that two `if`s are the same term.  Fails if nothing changes. -/
macro "tr_unfold" s:ident,+ loc:(Lean.Parser.Tactic.location)? : tactic => `(tactic| first
  | (dsimp +instances only [$[$s:ident],*] $[$loc]?; try simp only [$[$s:ident],*] $[$loc]?)
  | simp only [$[$s:ident],*] $[$loc]?)

/-- all `if`s and `match`es of the goal; a case whose two sides have become the same term is closed at once -/
macro "tr_split" : tactic => `(tactic| repeat' (first | with_reducible rfl | dsimp only at * | split))

/-- Closers of a leaf, cheapest first.  After `omega`: a tuple of integers componentwise; a `Bool` result
    (`decide p = decide q`, `a && b = c`) as an equivalence of propositions; `tr_congr_omega`.  The two `simp_all` at the
    end are for what is not arithmetic: two `match`es on the same callee through different matchers leave
    `h₁ : g x = ok r`, `h₂ : g x = error e` or `e₁ = e₂`. -/
macro "tr_close" : tactic => `(tactic| first
  | with_reducible rfl
  | omega
  | ((repeat' apply And.intro) <;> first | with_reducible rfl | omega)
  | ((try rw [Bool.eq_iff_iff])
     (try simp only [Bool.and_eq_true, Bool.or_eq_true, Bool.not_eq_true', beq_iff_eq, bne_iff_ne, decide_eq_true_eq,
       decide_eq_decide])
     first | done | omega | (apply Iff.intro <;> intro _ <;> omega))
  | tr_congr_omega
  | (simp_all; done)
  | (simp_all [Time.validateHms, Time.tryFromHms, Time.tryFromUsecs, Date.validateYmd, Date.tryFromYmd, Date.tryFromDays,
      Timestamp.tryFromUsecs, IntervalYM.tryFromMonths, IntervalDT.tryFromUsecs, OracleDate.tryFromUsecs,
      MONTHS_PER_YEAR, HOURS_PER_DAY, MINUTES_PER_HOUR, SECONDS_PER_MINUTE, USECONDS_MAX, DATE_MIN_YEAR, DATE_MAX_YEAR]
     <;> omega))

/-- casts and `rdiv`/`rrem` whose argument the facts of the branch put in range / give a sign (`omega` knows `/` `%`,
    and wants no case split it can be spared); callees that have become rewritable -/
macro "tr_casts" : tactic => `(tactic| simp (disch := omega) only [tr_eq, asI32_eq, asU32_eq, asU64_eq, asI64_eq,
  rdiv_nonneg_eq, rdiv_neg_eq, rrem_nonneg_eq, rrem_neg_eq] at *)

/-- A leaf of the case split: casts and `rdiv`/`rrem` resolved by the sign and range facts of the branch, the others
    named with their defining disjunction (`tr_abstract`; then `tr_casts` once more: with its argument named, a callee
    may have become rewritable) or unfolded and split, then `tr_close`. -/
macro "tr_fin" : tactic => `(tactic| (
  try tr_casts
  try tr_abstract
  try tr_casts
  try simp only [Tr.asU64, Tr.asI64, Tr.absI64, Tr.absI32, Tr.absI, Tr.uabs, Tr.signum, Tr.cmpInt] at *
  tr_split
  all_goals try simp only [Prod.mk.injEq, Except.ok.injEq, Except.error.injEq, Option.some.injEq, reduceCtorEq,
    decide_eq_decide, decide_eq_true_eq, true_and, and_true] at *
  all_goals tr_close))

/-- Second chance for a leaf (when `tr_fin` fails), exhaustive: a refactoring may express one model function through
    another (`date()` as `extract().0`), so the small functions of the model (`tr_model`) are unfolded as well,
    hypotheses are split, and a constant written as a call of `date2julian` is evaluated (the `simp only` with the
    `Int.reduce…` procedures); repeated until nothing applies. -/
macro "tr_deep" : tactic => `(tactic| (
  repeat' (first
    | with_reducible rfl
    | dsimp only at *
    | split
    | tr_split_hyp
    | simp only [reduceCtorEq, Except.ok.injEq, Except.error.injEq, Option.some.injEq] at *
    | tr_unfold tr_model, tr_num at *
    | tr_casts
    | tr_abstract1
    | simp only [Tr.asU64, Tr.asI64, Tr.absI64, Tr.absI32, Tr.absI, Tr.uabs, Tr.signum, Tr.cmpInt] at *
    | simp only [date2julian, rdiv, Int.reduceAdd, Int.reduceSub, Int.reduceMul, Int.reduceDiv, Int.reduceNeg,
        Int.reduceLE, Int.reduceLT, Int.reduceGT, Int.reduceGE, ↓reduceIte] at *)
  all_goals try simp only [Prod.mk.injEq, Except.ok.injEq, Except.error.injEq, Option.some.injEq, reduceCtorEq,
    decide_eq_decide, decide_eq_true_eq, true_and, and_true] at *
  all_goals tr_close))

/-- `Tr.f args = f args` with both sides unfolded: conditions in one association (the same condition written
    `(a ∨ b) ∨ c` and `a ∨ b ∨ c` would be split twice), callees rewritten by their own `_eq` (side conditions by
    `omega`; this comes before the numerals because a translated constant is rewritten too, to the model's, which
    only then can become a numeral), constants as numerals, case split, `tr_fin` or else `tr_deep` in every case.  Inside `first` error recovery is off: the
    first leaf that cannot be closed ends the attempt (a wrong translation fails fast). -/
macro "tr_auto" : tactic => `(tactic| (
  try simp only [bind, Except.bind, pure, Except.pure, or_assoc, and_assoc]
  try simp (disch := omega) only [tr_eq, decide_eq_true_eq]
  try tr_unfold tr_num at *
  first
  | (tr_split; all_goals first | tr_fin | tr_deep)
  | fail "tr_auto: a case of the split could not be closed"))

/-- `match e with … = match e with …` through two different (but equivalent) matchers, or the same `if` on both sides:
    go through the cases of the left one and rewrite the right one with the case hypothesis -/
macro "tr_ts_both" : tactic => `(tactic|
  (split <;> (rename_i hcase; try simp only [hcase, ↓reduceIte]; try (with_reducible rfl))))

/-- For a function whose model is to be opened only after the callees have been rewritten (a side condition may be a
    hypothesis that is not arithmetic, `isValidDate d`: hence `assumption`): then `s` is unfolded, the model's function or,
    for a calendar unit, the set of the units of its level (`tr_unit` for a `Date` unit, `tr_unit_ts` for a wrapper: a
    callee stays folded on both sides).  What is left is the same term on both sides (the model mirrors the crate) or
    goes to `tr_auto`. -/
macro "tr_unit_eq" s:ident : tactic => `(tactic| (
  try simp (disch := first | assumption | omega) only [tr_eq]
  try tr_unfold $s
  try simp only [bind, Except.bind, pure, Except.pure]
  first | with_reducible_and_instances rfl | (tr_ts_both; done) | tr_auto))

/-! ## common.rs -/

@[tr_eq] theorem date2julian_eq (year month day : Int) (hm0 : 0 ≤ month) (hm1 : month ≤ 2147483634)
    (hd0 : 0 ≤ day) (hd1 : day ≤ 2147483647) :
    Tr.date2julian year month day = date2julian year month day := by
  unfold Tr.date2julian date2julian
  tr_auto

@[tr_eq] theorem julian2date_eq (j : Int) (h0 : 0 ≤ j) (h1 : j ≤ 2147483647) :
    Tr.julian2date j = julian2date j := by
  unfold Tr.julian2date julian2date
  tr_auto

@[tr_eq] theorem is_leap_year_eq (y : Int) : Tr.is_leap_year y = isLeapYear y := by
  unfold Tr.is_leap_year isLeapYear
  tr_auto

@[tr_eq] theorem UNIX_EPOCH_JULIAN_eq : Tr.UNIX_EPOCH_JULIAN = UNIX_EPOCH_JULIAN := by decide
@[tr_eq] theorem DATE_MIN_JULIAN_eq : Tr.DATE_MIN_JULIAN = DATE_MIN_JULIAN := by decide
@[tr_eq] theorem DATE_MAX_JULIAN_eq : Tr.DATE_MAX_JULIAN = DATE_MAX_JULIAN := by decide
@[tr_eq] theorem TIMESTAMP_MIN_eq : Tr.TIMESTAMP_MIN = TIMESTAMP_MIN := by decide
@[tr_eq] theorem TIMESTAMP_MAX_eq : Tr.TIMESTAMP_MAX = TIMESTAMP_MAX := by decide

@[tr_eq] theorem is_valid_date_eq (d : Int) : Tr.is_valid_date d = decide (isValidDate d) := by
  unfold Tr.is_valid_date isValidDate
  tr_auto

@[tr_eq] theorem is_valid_timestamp_eq (t : Int) : Tr.is_valid_timestamp t = decide (isValidTimestamp t) := by
  unfold Tr.is_valid_timestamp isValidTimestamp
  tr_auto

@[tr_eq] theorem is_valid_time_eq (t : Int) : Tr.is_valid_time t = decide (isValidTime t) := by
  unfold Tr.is_valid_time isValidTime
  tr_auto

@[tr_eq] theorem days_of_month_eq (y m : Int) : Tr.days_of_month y m = daysOfMonth y m := by
  unfold Tr.days_of_month daysOfMonth
  tr_auto

@[tr_eq] theorem the_day_of_year_eq (y m d : Int) : Tr.the_day_of_year y m d = theDayOfYear y m d := by
  unfold Tr.the_day_of_year theDayOfYear
  tr_auto

/-! ## time.rs -/

@[tr_eq] theorem Time.from_hms_unchecked_eq (h mi s us : Int) :
    Tr.Time.from_hms_unchecked h mi s us = Time.fromHmsUnchecked h mi s us := by
  unfold Tr.Time.from_hms_unchecked Time.fromHmsUnchecked
  tr_auto

@[tr_eq] theorem Time.validate_hms_eq (h mi s : Int) :
    Tr.Time.validate_hms h mi s = Time.validateHms h mi s := by
  unfold Tr.Time.validate_hms Time.validateHms
  tr_auto

@[tr_eq] theorem Time.try_from_hms_eq (h mi s us : Int) :
    Tr.Time.try_from_hms h mi s us = Time.tryFromHms h mi s us := by
  unfold Tr.Time.try_from_hms Time.tryFromHms
  tr_auto

@[tr_eq] theorem Time.is_valid_eq (h mi s us : Int) :
    Tr.Time.is_valid h mi s us = Time.isValid h mi s us := by
  unfold Tr.Time.is_valid Time.isValid
  tr_auto

@[tr_eq] theorem Time.try_from_usecs_eq (u : Int) :
    Tr.Time.try_from_usecs u = Time.tryFromUsecs u := by
  unfold Tr.Time.try_from_usecs Time.tryFromUsecs
  tr_auto

@[tr_eq] theorem Time.extract_eq (t : Int) (ht0 : 0 ≤ t) (ht1 : t ≤ 9223372036854775807) :
    Tr.Time.extract t = Time.extract t := by
  unfold Tr.Time.extract Time.extract
  tr_auto

@[tr_eq] theorem Time.sub_time_eq (a b : Int) :
    Tr.Time.sub_time a b = Time.subTime a b := by
  unfold Tr.Time.sub_time Time.subTime
  tr_auto

@[tr_eq] theorem IntervalDT.negate_eq (v : Int) :
    Tr.IntervalDT.negate v = IntervalDT.negate v := by
  unfold Tr.IntervalDT.negate IntervalDT.negate
  tr_auto

@[tr_eq] theorem IntervalYM.negate_eq (v : Int) :
    Tr.IntervalYM.negate v = IntervalYM.negate v := by
  unfold Tr.IntervalYM.negate IntervalYM.negate
  tr_auto

@[tr_eq] theorem Time.add_interval_dt_eq (t i : Int) (ht0 : 0 ≤ t) (ht1 : t < 86400000000) :
    Tr.Time.add_interval_dt t i = Time.addIntervalDt t i := by
  unfold Tr.Time.add_interval_dt Time.addIntervalDt
  tr_auto

@[tr_eq] theorem Time.sub_interval_dt_eq (t i : Int) (ht0 : 0 ≤ t) (ht1 : t < 86400000000) :
    Tr.Time.sub_interval_dt t i = Time.subIntervalDt t i := by
  unfold Tr.Time.sub_interval_dt Time.subIntervalDt
  tr_auto

@[tr_eq] theorem Time.from_interval_dt_eq (i : Int) (hi : -9223372036854775808 < i) :
    Tr.Time.from_interval_dt i = Time.fromIntervalDt i := by
  unfold Tr.Time.from_interval_dt Time.fromIntervalDt
  tr_auto


/-! ## timestamp.rs -/

@[tr_eq] theorem Timestamp.new_eq (d t : Int) :
    Tr.Timestamp.new d t = Timestamp.new d t := by
  unfold Tr.Timestamp.new Timestamp.new
  tr_auto

namespace TsU

/-- The parts of a timestamp (its Julian day non-negative for the date) lie in the ranges for which `Date::extract`
    and `Time::extract` are tied. -/
theorem ts_extract_date_range (ts : Int) (h0 : -210866803200000000 ≤ ts) (h1 : ts ≤ 9223372036854775807) :
    -2440588 ≤ (Timestamp.extract ts).1 ∧ (Timestamp.extract ts).1 ≤ 2145043059 := by
  rw [SqlDt.Timestamp.extract_eq]; dsimp only; omega

theorem ts_extract_time_range (ts : Int) : 0 ≤ (Timestamp.extract ts).2 ∧ (Timestamp.extract ts).2 < 86400000000 := by
  rw [SqlDt.Timestamp.extract_eq]; dsimp only; omega

theorem ts_time_range (ts : Int) : 0 ≤ Timestamp.time ts ∧ Timestamp.time ts < 86400000000 := by
  rw [SqlDt.Timestamp.time_eq]; omega

end TsU
open TsU

@[tr_eq] theorem Timestamp.extract_eq (ts : Int) (hts0 : -9223372036854775808 ≤ ts) (hts1 : ts ≤ 9223372036854775807) :
    Tr.Timestamp.extract ts = Timestamp.extract ts := by
  unfold Tr.Timestamp.extract Timestamp.extract
  tr_auto

@[tr_eq] theorem Timestamp.date_eq (ts : Int) (hts0 : -9223372036854775808 ≤ ts) (hts1 : ts ≤ 9223372036854775807) :
    Tr.Timestamp.date ts = Timestamp.date ts := by
  unfold Tr.Timestamp.date Timestamp.date
  tr_auto

@[tr_eq] theorem Timestamp.time_eq (ts : Int) :
    Tr.Timestamp.time ts = Timestamp.time ts := by
  unfold Tr.Timestamp.time Timestamp.time
  tr_auto

@[tr_eq] theorem Timestamp.try_from_usecs_eq (u : Int) :
    Tr.Timestamp.try_from_usecs u = Timestamp.tryFromUsecs u := by
  unfold Tr.Timestamp.try_from_usecs Timestamp.tryFromUsecs
  tr_auto

@[tr_eq] theorem Timestamp.add_interval_dt_eq (ts i : Int) :
    Tr.Timestamp.add_interval_dt ts i = Timestamp.addIntervalDt ts i := by
  unfold Tr.Timestamp.add_interval_dt Timestamp.addIntervalDt
  tr_auto

@[tr_eq] theorem Timestamp.sub_interval_dt_eq (ts i : Int) :
    Tr.Timestamp.sub_interval_dt ts i = Timestamp.subIntervalDt ts i := by
  unfold Tr.Timestamp.sub_interval_dt Timestamp.subIntervalDt
  tr_auto

@[tr_eq] theorem Timestamp.add_time_eq (ts t : Int) :
    Tr.Timestamp.add_time ts t = Timestamp.addTime ts t := by
  unfold Tr.Timestamp.add_time Timestamp.addTime
  tr_auto

@[tr_eq] theorem Timestamp.sub_time_eq (ts t : Int) :
    Tr.Timestamp.sub_time ts t = Timestamp.subTime ts t := by
  unfold Tr.Timestamp.sub_time Timestamp.subTime
  tr_auto

@[tr_eq] theorem Timestamp.sub_timestamp_eq (a b : Int) :
    Tr.Timestamp.sub_timestamp a b = Timestamp.subTimestamp a b := by
  unfold Tr.Timestamp.sub_timestamp Timestamp.subTimestamp
  tr_auto

@[tr_eq] theorem Date.and_zero_time_eq (d : Int) :
    Tr.Date.and_zero_time d = Timestamp.new d 0 := by
  unfold Tr.Date.and_zero_time
  tr_auto

@[tr_eq] theorem Date.and_time_eq (d t : Int) :
    Tr.Date.and_time d t = Timestamp.new d t := by
  unfold Tr.Date.and_time
  tr_auto

@[tr_eq] theorem Timestamp.sub_date_eq (ts d : Int) :
    Tr.Timestamp.sub_date ts d = Timestamp.subDate ts d := by
  unfold Tr.Timestamp.sub_date Timestamp.subDate
  tr_auto


/-! ## interval.rs -/

@[tr_eq] theorem IntervalYM.from_ym_unchecked_eq (y m : Int) (h0 : -2147483648 ≤ y * 12 + m) (h1 : y * 12 + m ≤ 2147483647) :
    Tr.IntervalYM.from_ym_unchecked y m = y * MONTHS_PER_YEAR + m := by
  unfold Tr.IntervalYM.from_ym_unchecked
  tr_auto

@[tr_eq] theorem IntervalYM.try_from_ym_eq (y m : Int) (hy0 : 0 ≤ y) (hm0 : 0 ≤ m) :
    Tr.IntervalYM.try_from_ym y m = IntervalYM.tryFromYm y m := by
  unfold Tr.IntervalYM.try_from_ym IntervalYM.tryFromYm
  tr_auto

@[tr_eq] theorem IntervalYM.is_valid_ym_eq (y m : Int) :
    Tr.IntervalYM.is_valid_ym y m = IntervalYM.isValidYm y m := by
  unfold Tr.IntervalYM.is_valid_ym IntervalYM.isValidYm
  tr_auto

@[tr_eq] theorem IntervalYM.is_valid_months_eq (m : Int) :
    Tr.IntervalYM.is_valid_months m = decide (IntervalYM.isValidMonths m) := by
  unfold Tr.IntervalYM.is_valid_months IntervalYM.isValidMonths
  tr_auto

@[tr_eq] theorem IntervalYM.try_from_months_eq (m : Int) :
    Tr.IntervalYM.try_from_months m = IntervalYM.tryFromMonths m := by
  unfold Tr.IntervalYM.try_from_months IntervalYM.tryFromMonths
  tr_auto

@[tr_eq] theorem IntervalYM.extract_eq (v : Int) (hv0 : -2147483648 ≤ v) (hv1 : v ≤ 2147483647) :
    Tr.IntervalYM.extract v = IntervalYM.extract v := by
  unfold Tr.IntervalYM.extract IntervalYM.extract
  tr_auto

@[tr_eq] theorem IntervalYM.add_interval_ym_eq (a b : Int) :
    Tr.IntervalYM.add_interval_ym a b = IntervalYM.addIntervalYm a b := by
  unfold Tr.IntervalYM.add_interval_ym IntervalYM.addIntervalYm
  tr_auto

@[tr_eq] theorem IntervalYM.sub_interval_ym_eq (a b : Int) :
    Tr.IntervalYM.sub_interval_ym a b = IntervalYM.subIntervalYm a b := by
  unfold Tr.IntervalYM.sub_interval_ym IntervalYM.subIntervalYm
  tr_auto

@[tr_eq] theorem IntervalDT.from_dhms_unchecked_eq (d h mi s us : Int) :
    Tr.IntervalDT.from_dhms_unchecked d h mi s us = IntervalDT.fromDhmsUnchecked d h mi s us := by
  unfold Tr.IntervalDT.from_dhms_unchecked IntervalDT.fromDhmsUnchecked
  tr_auto

@[tr_eq] theorem IntervalDT.try_from_dhms_eq (d h mi s us : Int) (hd0 : 0 ≤ d) (hd1 : d ≤ 4294967295) :
    Tr.IntervalDT.try_from_dhms d h mi s us = IntervalDT.tryFromDhms d h mi s us := by
  unfold Tr.IntervalDT.try_from_dhms IntervalDT.tryFromDhms
  tr_auto

@[tr_eq] theorem IntervalDT.is_valid_eq (d h mi s us : Int) (hd0 : 0 ≤ d) (hd1 : d ≤ 4294967295) :
    Tr.IntervalDT.is_valid d h mi s us = IntervalDT.isValid d h mi s us := by
  unfold Tr.IntervalDT.is_valid IntervalDT.isValid
  tr_auto

@[tr_eq] theorem IntervalDT.is_valid_usecs_eq (u : Int) :
    Tr.IntervalDT.is_valid_usecs u = decide (IntervalDT.isValidUsecs u) := by
  unfold Tr.IntervalDT.is_valid_usecs IntervalDT.isValidUsecs
  tr_auto

@[tr_eq] theorem IntervalDT.try_from_usecs_eq (u : Int) :
    Tr.IntervalDT.try_from_usecs u = IntervalDT.tryFromUsecs u := by
  unfold Tr.IntervalDT.try_from_usecs IntervalDT.tryFromUsecs
  tr_auto

@[tr_eq] theorem IntervalDT.extract_eq (v : Int) (hv0 : -9223372036854775808 ≤ v) (hv1 : v ≤ 9223372036854775807) :
    Tr.IntervalDT.extract v = IntervalDT.extract v := by
  unfold Tr.IntervalDT.extract IntervalDT.extract
  tr_auto

@[tr_eq] theorem IntervalDT.add_interval_dt_eq (a b : Int) :
    Tr.IntervalDT.add_interval_dt a b = IntervalDT.addIntervalDt a b := by
  unfold Tr.IntervalDT.add_interval_dt IntervalDT.addIntervalDt
  tr_auto

@[tr_eq] theorem IntervalDT.sub_interval_dt_eq (a b : Int) :
    Tr.IntervalDT.sub_interval_dt a b = IntervalDT.subIntervalDt a b := by
  unfold Tr.IntervalDT.sub_interval_dt IntervalDT.subIntervalDt
  tr_auto

@[tr_eq] theorem IntervalDT.sub_time_eq (v t : Int) :
    Tr.IntervalDT.sub_time v t = IntervalDT.subTime v t := by
  unfold Tr.IntervalDT.sub_time IntervalDT.subTime
  tr_auto

/-! ## date.rs -/

@[tr_eq] theorem Date.from_ymd_unchecked_eq (y m d : Int) (hm0 : 0 ≤ m) (hm1 : m ≤ 2147483634) (hd0 : 0 ≤ d) (hd1 : d ≤ 2147483647) :
    Tr.Date.from_ymd_unchecked y m d = Date.fromYmdUnchecked y m d := by
  unfold Tr.Date.from_ymd_unchecked Date.fromYmdUnchecked
  tr_auto

@[tr_eq] theorem Date.validate_ymd_eq (y m d : Int) :
    Tr.Date.validate_ymd y m d = Date.validateYmd y m d := by
  unfold Tr.Date.validate_ymd Date.validateYmd
  tr_auto

@[tr_eq] theorem Date.try_from_ymd_eq (y m d : Int) :
    Tr.Date.try_from_ymd y m d = Date.tryFromYmd y m d := by
  unfold Tr.Date.try_from_ymd Date.tryFromYmd
  tr_auto

@[tr_eq] theorem Date.is_valid_eq (y m d : Int) :
    Tr.Date.is_valid y m d = Date.isValid y m d := by
  unfold Tr.Date.is_valid Date.isValid
  tr_auto

@[tr_eq] theorem Date.try_from_days_eq (d : Int) :
    Tr.Date.try_from_days d = Date.tryFromDays d := by
  unfold Tr.Date.try_from_days Date.tryFromDays
  tr_auto

@[tr_eq] theorem Date.extract_eq (d : Int) (h0 : -2440588 ≤ d) (h1 : d ≤ 2145043059) :
    Tr.Date.extract d = Date.extract d := by
  unfold Tr.Date.extract Date.extract
  tr_auto

@[tr_eq] theorem Date.and_hms_eq (d h mi s us : Int) :
    Tr.Date.and_hms d h mi s us = Timestamp.andHms d h mi s us := by
  unfold Tr.Date.and_hms Timestamp.andHms
  tr_auto

@[tr_eq] theorem Date.add_days_eq (d k : Int) :
    Tr.Date.add_days d k = Date.addDays d k := by
  unfold Tr.Date.add_days Date.addDays
  tr_auto

@[tr_eq] theorem Date.sub_days_eq (d k : Int) :
    Tr.Date.sub_days d k = Date.subDays d k := by
  unfold Tr.Date.sub_days Date.subDays
  tr_auto

@[tr_eq] theorem Date.sub_date_eq (a b : Int) :
    Tr.Date.sub_date a b = Date.subDate a b := by
  unfold Tr.Date.sub_date Date.subDate
  tr_auto

@[tr_eq] theorem Date.day_of_week_eq (d : Int) :
    Tr.Date.day_of_week d = Date.dayOfWeek d := by
  unfold Tr.Date.day_of_week Date.dayOfWeek
  tr_auto


/-! ## oracle.rs -/

@[tr_eq] theorem OracleDate.new_eq (d t : Int) :
    Tr.OracleDate.new d t = OracleDate.new d t := by
  unfold Tr.OracleDate.new OracleDate.new
  tr_auto

@[tr_eq] theorem OracleDate.is_valid_date_eq (u : Int) :
    Tr.OracleDate.is_valid_date u = decide (OracleDate.isValidDate u) := by
  unfold Tr.OracleDate.is_valid_date
  tr_auto

@[tr_eq] theorem OracleDate.try_from_usecs_eq (u : Int) :
    Tr.OracleDate.try_from_usecs u = OracleDate.tryFromUsecs u := by
  unfold Tr.OracleDate.try_from_usecs OracleDate.tryFromUsecs
  tr_auto

@[tr_eq] theorem OracleDate.from_timestamp_eq (ts : Int) :
    Tr.OracleDate.from_timestamp ts = OracleDate.fromTimestamp ts := by
  unfold Tr.OracleDate.from_timestamp OracleDate.fromTimestamp
  tr_auto

@[tr_eq] theorem OracleDate.add_interval_dt_eq (od i : Int) :
    Tr.OracleDate.add_interval_dt od i = OracleDate.addIntervalDt od i := by
  unfold Tr.OracleDate.add_interval_dt OracleDate.addIntervalDt
  tr_auto

@[tr_eq] theorem OracleDate.sub_interval_dt_eq (od i : Int) :
    Tr.OracleDate.sub_interval_dt od i = OracleDate.subIntervalDt od i := by
  unfold Tr.OracleDate.sub_interval_dt OracleDate.subIntervalDt
  tr_auto

/-! ## Functions built on `Date::extract` (month arithmetic) -/

theorem extract_month_range (d : Int) : 1 ≤ (Date.extract d).2.1 ∧ (Date.extract d).2.1 ≤ 12 := by
  unfold Date.extract julian2date MONTHS_PER_YEAR
  dsimp only
  omega

theorem extract_day_range (d : Int) (h0 : -2440588 ≤ d) : 0 ≤ (Date.extract d).2.2 ∧ (Date.extract d).2.2 ≤ 500 := by
  unfold Date.extract julian2date MONTHS_PER_YEAR
  rw [SqlDt.UNIX_EPOCH_JULIAN_eq]
  dsimp only
  split <;> omega

set_option hygiene false in
/-- Common preparation where `Date::extract d` is taken apart: callees rewritten, the model's unit opened,
    `Date.extract d` named `(y, m, dd)` on both sides (tuple pattern or projections; `hE` says so), with its month in
    1..12 (`hm`) and day ≥ 0 (`hdd`).  The goal of an UNTRANSLATED alias is closed on the way: a caller that goes on
    with anything but `tr_auto` writes `first | done | …`. -/
macro "tr_ymd" d:ident h0:ident : tactic => `(tactic| (
  have hm := extract_month_range $d
  have hdd := extract_day_range $d $h0
  try simp (disch := omega) only [tr_eq]
  try tr_unfold tr_unit
  try simp only [bind, Except.bind, pure, Except.pure]
  first
  | done
  | (rcases hE : Date.extract $d with ⟨y, m, dd⟩
     simp only [hE] at *
     all_goals try dsimp only at *)))

@[tr_eq] theorem Date.add_interval_ym_internal_eq (d i : Int) (h0 : -2440588 ≤ d) (h1 : d ≤ 2145043059) :
    Tr.Date.add_interval_ym_internal d i = Date.addIntervalYmInternal d i := by
  unfold Tr.Date.add_interval_ym_internal Date.addIntervalYmInternal
  tr_ymd d h0
  first | done | (unfold Date.monthCarry; tr_auto)

@[tr_eq] theorem Timestamp.add_interval_ym_eq (ts i : Int) (h0 : -210866803200000000 ≤ ts)
    (h1 : ts ≤ 9223372036854775807) :
    Tr.Timestamp.add_interval_ym ts i = Timestamp.addIntervalYm ts i := by
  unfold Tr.Timestamp.add_interval_ym Timestamp.addIntervalYm
  -- the model takes `extract ts` apart with a tuple pattern, the translation with projections: written as the pair of
  -- Lemmas/Div, both reduce (also in `last_day_of_month_eq`; without it `tr_auto` gets there at 20 times the cost)
  try simp (disch := omega) only [tr_eq, SqlDt.Timestamp.extract_eq]
  tr_auto

@[tr_eq] theorem Timestamp.sub_interval_ym_eq (ts i : Int) (h0 : -210866803200000000 ≤ ts)
    (h1 : ts ≤ 9223372036854775807) :
    Tr.Timestamp.sub_interval_ym ts i = Timestamp.subIntervalYm ts i := by
  unfold Tr.Timestamp.sub_interval_ym Timestamp.subIntervalYm
  tr_auto

@[tr_eq] theorem OracleDate.add_interval_ym_eq (od i : Int) (h0 : -210866803200000000 ≤ od)
    (h1 : od ≤ 9223372036854775807) :
    Tr.OracleDate.add_interval_ym od i = OracleDate.addIntervalYm od i := by
  unfold Tr.OracleDate.add_interval_ym OracleDate.addIntervalYm
  tr_auto

@[tr_eq] theorem OracleDate.sub_interval_ym_eq (od i : Int) (h0 : -210866803200000000 ≤ od)
    (h1 : od ≤ 9223372036854775807) :
    Tr.OracleDate.sub_interval_ym od i = OracleDate.subIntervalYm od i := by
  unfold Tr.OracleDate.sub_interval_ym OracleDate.subIntervalYm
  tr_auto

theorem daysOfMonth_range (y m : Int) : 0 ≤ daysOfMonth y m ∧ daysOfMonth y m ≤ 31 :=
  idxD_of_forall (P := fun x => 0 ≤ x ∧ x ≤ 31) (by decide)
    (idxD_of_forall (P := fun row => ∀ x ∈ row, 0 ≤ x ∧ x ≤ 31) (by decide) (by decide) _) m

@[tr_eq] theorem Date.last_day_of_month_eq (d : Int) (h0 : -2440588 ≤ d) (h1 : d ≤ 2145043059) :
    Tr.Date.last_day_of_month d = Date.lastDayOfMonth d := by
  unfold Tr.Date.last_day_of_month Date.lastDayOfMonth
  tr_ymd d h0
  first | done | (have hr := daysOfMonth_range y m; tr_auto)

@[tr_eq] theorem Timestamp.last_day_of_month_eq (ts : Int) (h0 : -210866803200000000 ≤ ts)
    (h1 : ts ≤ 9223372036854775807) :
    Tr.Timestamp.last_day_of_month ts = Timestamp.lastDayOfMonth ts := by
  unfold Tr.Timestamp.last_day_of_month Timestamp.lastDayOfMonth
  try simp (disch := omega) only [tr_eq, SqlDt.Timestamp.extract_eq]
  tr_auto

/-! ## `Trunc for Timestamp` (day, hour, minute) -/

@[tr_eq] theorem Timestamp.trunc_day_eq (ts : Int) (hts0 : -9223372036854775808 ≤ ts) (hts1 : ts ≤ 9223372036854775807) :
    Tr.Timestamp.trunc_day ts = Timestamp.trunc .day ts := by
  unfold Tr.Timestamp.trunc_day Timestamp.trunc
  tr_auto

@[tr_eq] theorem Timestamp.trunc_hour_eq (ts : Int) (hts0 : -9223372036854775808 ≤ ts) (hts1 : ts ≤ 9223372036854775807) :
    Tr.Timestamp.trunc_hour ts = Timestamp.trunc .hour ts := by
  unfold Tr.Timestamp.trunc_hour Timestamp.trunc Timestamp.hour Time.hour
  -- the hour is cast `as i32`, `as u32` (and so are hour and minute of `trunc_minute`): exact for a time of day
  have ht := ts_time_range ts
  tr_auto

@[tr_eq] theorem Timestamp.trunc_minute_eq (ts : Int) (hts0 : -9223372036854775808 ≤ ts) (hts1 : ts ≤ 9223372036854775807) :
    Tr.Timestamp.trunc_minute ts = Timestamp.trunc .minute ts := by
  unfold Tr.Timestamp.trunc_minute Timestamp.trunc
  have ht := ts_time_range ts
  tr_auto

/-! ## Mixed comparison `Date` vs `Timestamp` (C17): the date is compared as its midnight timestamp -/

@[tr_eq] theorem Date.partial_cmp_timestamp_eq (d ts : Int) (hd0 : -2147483648 ≤ d) (hd1 : d ≤ 2147483647)
    (hts0 : -9223372036854775808 ≤ ts) (hts1 : ts ≤ 9223372036854775807) :
    Tr.Date.partial_cmp_timestamp d ts = some (Tr.cmpInt (Timestamp.new d 0) ts) := by
  unfold Tr.Date.partial_cmp_timestamp
  tr_auto

@[tr_eq] theorem Date.eq_timestamp_eq (d ts : Int) (hd0 : -2147483648 ≤ d) (hd1 : d ≤ 2147483647)
    (hts0 : -9223372036854775808 ≤ ts) (hts1 : ts ≤ 9223372036854775807) :
    Tr.Date.eq_timestamp d ts = decide (Timestamp.new d 0 = ts) := by
  unfold Tr.Date.eq_timestamp
  tr_auto

/-! ## `Ord for IntervalYM` (derived in the crate: comparison of the month counts) -/

@[tr_eq] theorem IntervalYM.cmp_eq (a b : Int) (ha0 : -2147483648 ≤ a) (ha1 : a ≤ 2147483647)
    (hb0 : -2147483648 ≤ b) (hb1 : b ≤ 2147483647) :
    Tr.IntervalYM.cmp a b = Tr.cmpInt a b := by
  unfold Tr.IntervalYM.cmp
  tr_auto

/-! ## The functions that go through `f64`: equal to the model's soft-float computation for EVERY double.
    No decision procedure exists for floats: the float parts must match syntactically (after unfolding and rewriting the
    callees); the integer parts around them are handled as everywhere else. -/

@[tr_eq] theorem IntervalYM.mul_f64_eq (v : Int) (x : F64) :
    Tr.IntervalYM.mul_f64 v x = IntervalYM.mulF64 v x := by
  unfold Tr.IntervalYM.mul_f64 IntervalYM.mulF64
  tr_auto

@[tr_eq] theorem IntervalYM.div_f64_eq (v : Int) (x : F64) :
    Tr.IntervalYM.div_f64 v x = IntervalYM.divF64 v x := by
  unfold Tr.IntervalYM.div_f64 IntervalYM.divF64
  tr_auto

@[tr_eq] theorem IntervalDT.mul_f64_eq (v : Int) (x : F64) :
    Tr.IntervalDT.mul_f64 v x = IntervalDT.mulF64 v x := by
  unfold Tr.IntervalDT.mul_f64 IntervalDT.mulF64
  tr_auto

@[tr_eq] theorem IntervalDT.div_f64_eq (v : Int) (x : F64) :
    Tr.IntervalDT.div_f64 v x = IntervalDT.divF64 v x := by
  unfold Tr.IntervalDT.div_f64 IntervalDT.divF64
  tr_auto

@[tr_eq] theorem IntervalDT.second_eq (v : Int) :
    Tr.IntervalDT.second v = some (IntervalDT.second v) := by
  unfold Tr.IntervalDT.second IntervalDT.second
  tr_auto

@[tr_eq] theorem Time.mul_f64_eq (t : Int) (x : F64) :
    Tr.Time.mul_f64 t x = IntervalDT.mulF64 t x := by
  unfold Tr.Time.mul_f64
  tr_auto

@[tr_eq] theorem Time.div_f64_eq (t : Int) (x : F64) :
    Tr.Time.div_f64 t x = IntervalDT.divF64 t x := by
  unfold Tr.Time.div_f64
  tr_auto

@[tr_eq] theorem Time.second_eq (t : Int) :
    Tr.Time.second t = some (Time.second t) := by
  unfold Tr.Time.second Time.second
  tr_auto

@[tr_eq] theorem Timestamp.add_days_eq (ts : Int) (x : F64) :
    Tr.Timestamp.add_days ts x = Timestamp.addDays ts x := by
  unfold Tr.Timestamp.add_days Timestamp.addDays
  tr_auto

@[tr_eq] theorem Timestamp.sub_days_eq (ts : Int) (x : F64) :
    Tr.Timestamp.sub_days ts x = Timestamp.subDays ts x := by
  unfold Tr.Timestamp.sub_days Timestamp.subDays
  tr_auto

@[tr_eq] theorem Timestamp.second_eq (ts : Int) :
    Tr.Timestamp.second ts = some (Time.second (Timestamp.time ts)) := by
  unfold Tr.Timestamp.second
  tr_auto

@[tr_eq] theorem OracleDate.add_days_eq (od : Int) (x : F64) :
    Tr.OracleDate.add_days od x = OracleDate.addDays od x := by
  unfold Tr.OracleDate.add_days OracleDate.addDays OracleDate.roundToSecond
  simp only [bind, Except.bind, pure, Except.pure, tr_eq]
  first
  | done
  | (-- the float computation is the same term on both sides: name its result and look at the integer rounding
     generalize Timestamp.addDays od x = y
     cases y with
     | error e => rfl
     | ok v =>
       dsimp only
       -- `Ok(f(a)?)` against `f(b)`: the left side is `f(a)` however `f(a)` falls, and `a = b` is an integer goal
       apply Eq.trans
       · split <;> (rename_i heq; exact heq.symm)
       · apply congrArg
         tr_auto)

@[tr_eq] theorem OracleDate.sub_days_eq (od : Int) (x : F64) :
    Tr.OracleDate.sub_days od x = OracleDate.subDays od x := by
  unfold Tr.OracleDate.sub_days OracleDate.subDays
  tr_auto

@[tr_eq] theorem OracleDate.sub_date_eq (a b : Int) :
    Tr.OracleDate.sub_date a b = OracleDate.subDate a b := by
  unfold Tr.OracleDate.sub_date OracleDate.subDate
  tr_auto

@[tr_eq] theorem Timestamp.oracle_add_days_eq (ts : Int) (x : F64) :
    Tr.Timestamp.oracle_add_days ts x = OracleDate.addDays (OracleDate.fromTimestamp ts) x := by
  unfold Tr.Timestamp.oracle_add_days
  tr_auto

@[tr_eq] theorem Timestamp.oracle_sub_days_eq (ts : Int) (x : F64) :
    Tr.Timestamp.oracle_sub_days ts x = OracleDate.subDays (OracleDate.fromTimestamp ts) x := by
  unfold Tr.Timestamp.oracle_sub_days
  tr_auto

/-! ## The conversion layer `format::NaiveDateTime`: the struct is the model's structure `NDT` -/

@[tr_eq] theorem NDT.new_eq : Tr.NDT.new = ({} : NDT) := rfl

/-- for an hour of the day (the documented refactoring `(hour + 11) % 12 + 1` agrees with the `match` only up to 24) -/
@[tr_eq] theorem NDT.hour12_eq (dt : NDT) (hh0 : 0 ≤ dt.hour) (hh1 : dt.hour ≤ 23) :
    Tr.NDT.hour12 dt = NDT.hour12 dt := by
  unfold Tr.NDT.hour12 NDT.hour12
  tr_auto

@[tr_eq] theorem NDT.adjust_hour12_eq (dt : NDT) :
    Tr.NDT.adjust_hour12 dt = NDT.adjustHour12 dt := by
  unfold Tr.NDT.adjust_hour12 NDT.adjustHour12
  tr_auto

@[tr_eq] theorem NDT.of_date_eq (d : Int) (h0 : -2440588 ≤ d) (h1 : d ≤ 2145043059) :
    Tr.NDT.of_date d = NDT.ofDate d := by
  unfold Tr.NDT.of_date NDT.ofDate
  tr_auto

@[tr_eq] theorem NDT.of_time_eq (t : Int) (ht0 : 0 ≤ t) (ht1 : t ≤ 9223372036854775807) :
    Tr.NDT.of_time t = NDT.ofTime t := by
  unfold Tr.NDT.of_time NDT.ofTime
  tr_auto

@[tr_eq] theorem NDT.of_timestamp_eq (ts : Int) (hts0 : -210866803200000000 ≤ ts) (hts1 : ts ≤ 9223372036854775807) :
    Tr.NDT.of_timestamp ts = NDT.ofTimestamp ts := by
  unfold Tr.NDT.of_timestamp NDT.ofTimestamp
  have hd := ts_extract_date_range ts hts0 hts1
  have ht := ts_extract_time_range ts
  tr_auto

@[tr_eq] theorem NDT.of_interval_ym_eq (v : Int) (hv0 : -2147483648 ≤ v) (hv1 : v ≤ 2147483647) :
    Tr.NDT.of_interval_ym v = NDT.ofIntervalYM v := by
  unfold Tr.NDT.of_interval_ym NDT.ofIntervalYM
  tr_auto

@[tr_eq] theorem NDT.of_interval_dt_eq (v : Int) (hv0 : -9223372036854775808 ≤ v) (hv1 : v ≤ 9223372036854775807) :
    Tr.NDT.of_interval_dt v = NDT.ofIntervalDT v := by
  unfold Tr.NDT.of_interval_dt NDT.ofIntervalDT
  tr_auto

@[tr_eq] theorem NDT.of_oracle_date_eq (ts : Int) (hts0 : -210866803200000000 ≤ ts) (hts1 : ts ≤ 9223372036854775807) :
    Tr.NDT.of_oracle_date ts = NDT.ofTimestamp ts := by
  unfold Tr.NDT.of_oracle_date NDT.ofTimestamp
  have hd := ts_extract_date_range ts hts0 hts1
  have ht := ts_extract_time_range ts
  tr_auto

@[tr_eq] theorem Date.try_from_ndt_ref_eq (dt : NDT) :
    Tr.Date.try_from_ndt_ref dt = Parser.tryFromNDT .D dt := by
  unfold Tr.Date.try_from_ndt_ref
  tr_unit_eq Parser.tryFromNDT

@[tr_eq] theorem Date.try_from_ndt_eq (dt : NDT) :
    Tr.Date.try_from_ndt dt = Parser.tryFromNDT .D dt := by
  unfold Tr.Date.try_from_ndt
  tr_unit_eq Parser.tryFromNDT

@[tr_eq] theorem Time.try_from_ndt_ref_eq (dt : NDT) :
    Tr.Time.try_from_ndt_ref dt = Parser.tryFromNDT .T dt := by
  unfold Tr.Time.try_from_ndt_ref
  tr_unit_eq Parser.tryFromNDT

@[tr_eq] theorem Time.try_from_ndt_eq (dt : NDT) :
    Tr.Time.try_from_ndt dt = Parser.tryFromNDT .T dt := by
  unfold Tr.Time.try_from_ndt
  tr_unit_eq Parser.tryFromNDT

/-- what an accepted `validate_ymd` tells about the fields -/
theorem validateYmd_ok (y m d : Int) (u : Unit) (h : Date.validateYmd y m d = .ok u) :
    1 ≤ y ∧ y ≤ 9999 ∧ 1 ≤ m ∧ m ≤ 12 ∧ 1 ≤ d ∧ d ≤ 31 := by
  unfold Date.validateYmd DATE_MIN_YEAR DATE_MAX_YEAR MONTHS_PER_YEAR at h
  simp only [Chk.ite_error_eq_ok] at h
  omega

@[tr_eq] theorem Timestamp.try_from_ndt_eq (dt : NDT) :
    Tr.Timestamp.try_from_ndt dt = Parser.tryFromNDT .TS dt := by
  unfold Tr.Timestamp.try_from_ndt
  try simp (disch := omega) only [tr_eq]
  try simp only [Parser.tryFromNDT]
  first
  | done
  | (-- `date2julian` is reached with the fields `validate_ymd` has accepted, and is tied for those only
     cases h1 : Date.validateYmd dt.year dt.month dt.day with
     | error e => tr_auto
     | ok u =>
       have hv := validateYmd_ok _ _ _ _ h1
       -- matched through one matcher on each side: as a variable it is split on both sides at once
       generalize Time.validateHms dt.hour dt.minute dt.sec = c
       tr_auto)

@[tr_eq] theorem IntervalYM.try_from_ndt_eq (dt : NDT) (hy0 : -2147483648 ≤ dt.year) (hy1 : dt.year ≤ 2147483647) (hm0 : 0 ≤ dt.month) :
    Tr.IntervalYM.try_from_ndt dt = Parser.tryFromNDT .YM dt := by
  unfold Tr.IntervalYM.try_from_ndt
  tr_unit_eq Parser.tryFromNDT

@[tr_eq] theorem IntervalDT.try_from_ndt_eq (dt : NDT) (hd0 : 0 ≤ dt.day) (hd1 : dt.day ≤ 4294967295) :
    Tr.IntervalDT.try_from_ndt dt = Parser.tryFromNDT .DT dt := by
  unfold Tr.IntervalDT.try_from_ndt
  tr_unit_eq Parser.tryFromNDT

theorem tryFromNDT_od (dt : NDT) :
    Parser.tryFromNDT .OD dt = (do let ts ← Parser.tryFromNDT .TS dt; pure (OracleDate.fromTimestamp ts)) := by
  simp only [Parser.tryFromNDT, bind_assoc]

@[tr_eq] theorem OracleDate.try_from_ndt_eq (dt : NDT) :
    Tr.OracleDate.try_from_ndt dt = Parser.tryFromNDT .OD dt := by
  unfold Tr.OracleDate.try_from_ndt
  rw [tryFromNDT_od]
  tr_auto

/-! ## Calendar units: `Trunc` / `Round` for `Date` -/

@[tr_eq] theorem sub_to_date_eq (d k : Int) : Tr.sub_to_date d k = Date.subDays d k := by
  unfold Tr.sub_to_date
  tr_auto

@[tr_eq] theorem current_date_eq (d k : Int) : Tr.current_date d k = Except.ok d := by
  unfold Tr.current_date
  tr_auto

@[tr_eq] theorem Date.trunc_year_eq (d : Int) (h0 : -2440588 ≤ d) (h1 : d ≤ 2145043059) :
    Tr.Date.trunc_year d = Date.trunc .year d := by
  unfold Tr.Date.trunc_year
  tr_unit_eq tr_unit

@[tr_eq] theorem Date.trunc_week_eq (d : Int) (h0 : -2440588 ≤ d) (h1 : d ≤ 2145043059) :
    Tr.Date.trunc_week d = Date.trunc .week d := by
  unfold Tr.Date.trunc_week
  tr_unit_eq tr_unit

@[tr_eq] theorem Date.trunc_day_eq (d : Int) (h0 : -2440588 ≤ d) (h1 : d ≤ 2145043059) :
    Tr.Date.trunc_day d = Date.trunc .day d := by
  unfold Tr.Date.trunc_day
  tr_unit_eq tr_unit

@[tr_eq] theorem Date.trunc_hour_eq (d : Int) (h0 : -2440588 ≤ d) (h1 : d ≤ 2145043059) :
    Tr.Date.trunc_hour d = Date.trunc .hour d := by
  unfold Tr.Date.trunc_hour
  tr_unit_eq tr_unit

@[tr_eq] theorem Date.trunc_minute_eq (d : Int) (h0 : -2440588 ≤ d) (h1 : d ≤ 2145043059) :
    Tr.Date.trunc_minute d = Date.trunc .minute d := by
  unfold Tr.Date.trunc_minute
  tr_unit_eq tr_unit

@[tr_eq] theorem Date.trunc_sunday_start_week_eq (d : Int) (h0 : -2440588 ≤ d) (h1 : d ≤ 2145043059) :
    Tr.Date.trunc_sunday_start_week d = Date.trunc .sundayStartWeek d := by
  unfold Tr.Date.trunc_sunday_start_week
  tr_unit_eq tr_unit

@[tr_eq] theorem Date.round_century_eq (d : Int) (h0 : -2440588 ≤ d) (h1 : d ≤ 2145043059) :
    Tr.Date.round_century d = Date.round .century d := by
  unfold Tr.Date.round_century
  tr_unit_eq tr_unit

@[tr_eq] theorem Date.round_year_eq (d : Int) (h0 : -2440588 ≤ d) (h1 : d ≤ 2145043059) :
    Tr.Date.round_year d = Date.round .year d := by
  unfold Tr.Date.round_year
  tr_unit_eq tr_unit

@[tr_eq] theorem Date.round_day_eq (d : Int) (h0 : -2440588 ≤ d) (h1 : d ≤ 2145043059) :
    Tr.Date.round_day d = Date.round .day d := by
  unfold Tr.Date.round_day
  tr_unit_eq tr_unit

@[tr_eq] theorem Date.round_hour_eq (d : Int) (h0 : -2440588 ≤ d) (h1 : d ≤ 2145043059) :
    Tr.Date.round_hour d = Date.round .hour d := by
  unfold Tr.Date.round_hour
  tr_unit_eq tr_unit

@[tr_eq] theorem Date.round_minute_eq (d : Int) (h0 : -2440588 ≤ d) (h1 : d ≤ 2145043059) :
    Tr.Date.round_minute d = Date.round .minute d := by
  unfold Tr.Date.round_minute
  tr_unit_eq tr_unit

end SqlDt.TrEq
