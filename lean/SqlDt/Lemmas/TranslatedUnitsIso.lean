/-
  Lemmas/TranslatedUnitsIso (hand-written, stable): `Tr.f = model f` for the ISO-year units
  (`week_day_of_julian`, `Date::date_to_iso_year`, `trunc_iso_year` / `round_iso_year` of `Date`, `Timestamp`, `oracle::Date`).
  Same namespace (`SqlDt.TrEq`) and attribute (`tr_eq`) as Lemmas/TranslatedEq and Lemmas/TranslatedUnits; a separate
  file so that lake builds it in parallel.
-/
import SqlDt.Lemmas.TranslatedUnits
namespace SqlDt.TrEq
open SqlDt SqlDt.Gen SqlDt.TrTactic SqlDt.TrEq.TsU SqlDt.TrEq.IsoU

@[tr_eq] theorem week_day_of_julian_eq (j : Int) : Tr.week_day_of_julian j = Date.weekDayOfJulian j := by
  unfold Tr.week_day_of_julian
  unfold Date.weekDayOfJulian
  tr_auto

@[tr_eq] theorem Date.date_to_iso_year_eq (d : Int) (h0 : -2440588 ≤ d) (h1 : d ≤ 2145043059) :
    Tr.Date.date_to_iso_year d = Date.dateToIsoYear d := by
  unfold Tr.Date.date_to_iso_year Date.dateToIsoYear
  try simp only [Date.year]
  tr_auto

@[tr_eq] theorem Date.trunc_iso_year_eq (d : Int) (h0 : -2440588 ≤ d) (h1 : d ≤ 2145043059) :
    Tr.Date.trunc_iso_year d = Date.trunc .isoYear d := by
  unfold Tr.Date.trunc_iso_year
  have hw := dayOfWeek_range (Date.fromYmdUnchecked (Date.dateToIsoYear d) 1 1)
  tr_table

@[tr_eq] theorem Date.round_iso_year_eq (d : Int) (hd : isValidDate d) :
    Tr.Date.round_iso_year d = Date.round .isoYear d := by
  unfold Tr.Date.round_iso_year
  have hr := valid_date_range' d hd
  have h0 := hr.1
  have hj := next_jan4_range d hd
  tr_ymd d h0
  first | (with_reducible_and_instances rfl) | tr_auto

@[tr_eq] theorem Timestamp.trunc_iso_year_eq (ts : Int) (h0 : -210866803200000000 ≤ ts) (h1 : ts ≤ 9223372036854775807) :
    Tr.Timestamp.trunc_iso_year ts = Timestamp.trunc .isoYear ts := by
  unfold Tr.Timestamp.trunc_iso_year
  have hd := ts_date_range ts h0 h1
  tr_unit_eq tr_unit_ts

@[tr_eq] theorem Timestamp.round_iso_year_eq (ts : Int) (hts : isValidTimestamp ts) :
    Tr.Timestamp.round_iso_year ts = Timestamp.round .isoYear ts := by
  unfold Tr.Timestamp.round_iso_year
  have hr := valid_ts_range' ts hts
  have hd := valid_ts_date' ts hts
  tr_unit_eq tr_unit_ts

@[tr_eq] theorem OracleDate.trunc_iso_year_eq (od : Int) (h0 : -210866803200000000 ≤ od) (h1 : od ≤ 9223372036854775807) :
    Tr.OracleDate.trunc_iso_year od = OracleDate.trunc .isoYear od := by
  unfold Tr.OracleDate.trunc_iso_year
  tr_unit_eq tr_unit_ts

@[tr_eq] theorem OracleDate.round_iso_year_eq (od : Int) (hod : isValidTimestamp od) :
    Tr.OracleDate.round_iso_year od = OracleDate.round .isoYear od := by
  unfold Tr.OracleDate.round_iso_year
  tr_unit_eq tr_unit_ts
end SqlDt.TrEq
