/-
  Lemmas/TrAttr (hand-written, stable): what the proofs of the translator tie share and Lean has no ready-made
  counterpart for: the simp sets (filled in Lemmas/TranslatedEq and Lemmas/TranslatedSafe) and three small tactics.
-/
import Lean.Meta.Tactic.Simp.RegisterCommand
import Lean.Elab.Tactic.Basic
import Lean.Elab.Tactic.Omega
import Lean.Meta.Tactic.Split
import SqlDt.Lemmas.Basic
/-- the proved ties `Tr.f = model f`: the proof of a caller rewrites every callee with them, also one that a refactoring
    of the Rust newly introduces -/
register_simp_attr tr_eq
/-- the proved safety predicates `Tr.f_safe args` (Lemmas/TranslatedSafe), used as conditional rewrite rules to `True` -/
register_simp_attr tr_safe
/-- named constants as numerals; validity and integer-type range predicates as inequalities -/
register_simp_attr tr_num
/-- the small arithmetic functions of the model (a refactoring may express one through another) -/
register_simp_attr tr_model
/-- the model's `Trunc` / `Round` units of `Date` … -/
register_simp_attr tr_unit
/-- … and their wrappers for `Timestamp` and `oracle::Date` -/
register_simp_attr tr_unit_ts
/-- the generated predicates `Tr.f_safe` themselves, to open one instead of citing its theorem -/
register_simp_attr tr_spred

namespace SqlDt.TrTactic
open Lean Elab Tactic Meta

/-- closes `f a₁ … aₙ = f b₁ … bₙ` by proving with `omega` each `aᵢ = bᵢ` that is not syntactically trivial -/
elab "tr_congr_omega" : tactic => withMainContext do
  let g ← getMainGoal
  let t ← whnfR (← instantiateMVars (← g.getType))
  let some (_, lhs, rhs) := t.eq? | throwError "tr_congr_omega: not an equality"
  let f := lhs.getAppFn
  let as := lhs.getAppArgs
  let bs := rhs.getAppArgs
  unless f == rhs.getAppFn && as.size == bs.size && as.size > 0 do
    throwError "tr_congr_omega: different head symbols"
  let mut proof ← mkEqRefl f
  for (a, b) in as.zip bs do
    if a == b then
      proof ← mkCongrFun proof a
    else
      let m ← mkFreshExprMVar (← mkEq a b)
      let rest ← Tactic.run m.mvarId! (evalTactic (← `(tactic| omega)))
      unless rest.isEmpty do throwError "tr_congr_omega: omega left goals"
      proof ← mkCongr proof m
  g.assign proof

/-- `split` at the first hypothesis (a proposition) that contains an `if`/`match`; fails if there is none. -/
elab "tr_split_hyp" : tactic => withMainContext do
  let g ← getMainGoal
  for d in (← getLCtx) do
    if d.isImplementationDetail then continue
    unless (← isProp d.type) do continue
    let r ← try Lean.Meta.splitLocalDecl? g d.fvarId catch _ => pure none
    if let some gs := r then
      replaceMainGoal gs
      return
  throwError "tr_split_hyp: no hypothesis to split"

/-! ### `tr_abstract`: name every `rdiv`/`rrem`/`asI32`/`asU32`/`asU8` term and record what it is, for `omega`

Unfolding `rdiv a b := if 0 ≤ a then a / b else -(-a / b)` in place copies `a` three times, so nested signed divisions
and casts blow the goal up exponentially (and every copy has to be case-split).  Instead the innermost such term is
replaced by a fresh variable `q` together with its defining disjunction; `omega` does the case analysis itself.
(`Tr.asI64` / `Tr.asU64` are defined with the translation, after this file; the proofs unfold them to their `if`s.) -/

theorem asU32_spec (x : Int) : asU32 x = x % 4294967296 := rfl
theorem asU8_spec (x : Int) : asU8 x = x % 256 := rfl

def isAbstractTarget (e : Expr) : Bool :=
  (e.isAppOfArity ``SqlDt.rdiv 2) || (e.isAppOfArity ``SqlDt.rrem 2) || (e.isAppOfArity ``SqlDt.asI32 1) ||
  (e.isAppOfArity ``SqlDt.asU32 1) || (e.isAppOfArity ``SqlDt.asU8 1)

/-- an innermost target: none of its arguments contains another one -/
def findInnermost? (t : Expr) : Option Expr :=
  t.find? fun s => isAbstractTarget s && !s.hasLooseBVars &&
    s.getAppArgs.all fun a => (a.find? isAbstractTarget).isNone

/-- one step: the first innermost target of the goal, else of a hypothesis; fails if there is none -/
elab "tr_abstract1" : tactic => withMainContext do
  let g ← getMainGoal
  let mut found : Option Expr := findInnermost? (← instantiateMVars (← g.getType))
  if found.isNone then
    for d in (← getLCtx) do
      if d.isImplementationDetail then continue
      unless (← isProp d.type) do continue
      found := findInnermost? (← instantiateMVars d.type)
      if found.isSome then break
  let some e := found | throwError "tr_abstract1: nothing to abstract"
  let args := e.getAppArgs
  let lem : Name :=
    if e.isAppOf ``SqlDt.rdiv then ``rdiv_spec else if e.isAppOf ``SqlDt.rrem then ``rrem_spec
    else if e.isAppOf ``SqlDt.asI32 then ``asI32_spec else if e.isAppOf ``SqlDt.asU32 then ``asU32_spec else ``asU8_spec
  let mut pf := mkConst lem
  for a in args do pf := mkApp pf a
  let g ← g.assert `hq (← inferType pf) pf
  let (_, g) ← g.intro1
  replaceMainGoal [g]
  let es ← Term.exprToSyntax e
  evalTactic (← `(tactic| generalize $es = q at *))

/-- abstract all of them, innermost first -/
macro "tr_abstract" : tactic => `(tactic| repeat tr_abstract1)

end SqlDt.TrTactic
