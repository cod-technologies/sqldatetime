/-
  Lemmas/TranslatedSafe (hand-written, stable): for every whitelisted function `f` the generated predicate
  `Tr.f_safe args` (no arithmetic node leaves its Rust integer type, no division by zero, no index out of range,
  path-sensitively; see tools/rs2lean.py) holds whenever every parameter lies in its Rust type and every receiver /
  value-typed parameter is a VALID value of its type.  Theorems marked CONTRACT are about internal helpers and
  the `..._unchecked` constructors whose raw integer parameters are only safe on the range their callers
  establish; the hypothesis is that documented contract (see TRANSLATOR_NOTES.md).
-/
import SqlDt.Lemmas.TranslatedFacts
import SqlDt.Props.C13
set_option linter.unusedVariables false
namespace SqlDt.TrSafe
open SqlDt SqlDt.Gen SqlDt.TrTactic SqlDt.TrEq

/-- Side conditions of the callee lemmas: ranges and validity of the actual arguments.  It works on the side goal
    only (the caller has the hypotheses as numeral inequalities already), so that a condition that cannot be met yet,
    `isValidDate r` before the `match` that binds `r` is split, fails cheaply: most attempts fail. -/
macro "tr_sdisch" : tactic => `(tactic| first
  | assumption
  | omega
  | (simp only [tr_safe]; done)
  | (simp only [tr_num]; omega)
  | (simp only [tr_model, tr_num, asU32]; omega)
  | fail "side condition not discharged")

theorem ite_eq_iff_tr {α} (c : Prop) [Decidable c] (a b v : α) :
    (if c then a else b) = v ↔ (c ∧ a = v) ∨ (¬ c ∧ b = v) := by
  by_cases h : c
  · simp [h]
  · simp [h]

/-- what a `match` on a checked operation or on a `Result` tells about the bound variable: `checked_add = Some ts`
    means the exact sum fits and is `ts`; `g args = Ok r` is read through the model's `g` (by its `_eq`), whose
    checked operations and range gates are opened for that everywhere (the long list). -/
macro "tr_shyps" : tactic => `(tactic| (
  try simp (disch := tr_sdisch) only [tr_eq] at *
  try simp only [checkedI32, checkedI64, Tr.checkedU32, Tr.checkedU64, Time.validateHms, Time.tryFromHms, Time.tryFromUsecs,
    Date.validateYmd, Date.tryFromYmd, Date.tryFromDays, Date.addDays, Date.subDays, Timestamp.tryFromUsecs,
    Parser.tryFromNDT, Timestamp.addDays, Timestamp.subDays, Timestamp.addIntervalDt, Timestamp.subIntervalDt, Timestamp.addTime, Timestamp.subTime, IntervalYM.tryFromMonths,
    IntervalYM.tryFromYm, IntervalYM.addIntervalYm, IntervalDT.tryFromUsecs, IntervalDT.tryFromDhms, IntervalDT.addIntervalDt,
    OracleDate.tryFromUsecs, Time.isValid, Date.isValid, IntervalYM.isValidYm, IntervalDT.isValid,
    Bool.false_eq_true, reduceCtorEq, Except.ok.injEq, Except.error.injEq, Option.some.injEq,
    and_false, false_and, false_or, or_false, and_true, true_and, decide_eq_true_eq, forall_eq', forall_const,
    true_imp_iff] at *
  repeat' tr_split_hyp
  all_goals try simp only [reduceCtorEq, Except.ok.injEq, Except.error.injEq, Option.some.injEq, Bool.false_eq_true,
    and_false, false_and, false_or, or_false, and_true, true_and] at *
  all_goals try subst_vars))

/-- one goal per conjunct of the predicate, path conditions introduced, `match`es on callee results split -/
macro "tr_sintro" : tactic => `(tactic| repeat' (first
  | exact True.intro
  | with_reducible apply And.intro
  | dsimp only at *
  | with_reducible intro _
  | split))

/-- Everything to linear arithmetic, for the whole goal at once: numerals; casts and `rdiv`/`rrem` by range and sign,
    `+contextual` so that a path condition `c → …` serves without being introduced; the others named with their
    defining disjunction; the remaining machine operations unfolded to `if`s, which `omega` splits; callee
    predicates cited (last: their side conditions may need all of the above). -/
macro "tr_snorm" : tactic => `(tactic| (
  try tr_unfold tr_num at *
  try simp +contextual (disch := omega) only [asI32_eq, asU32_eq, asU64_eq, asI64_eq, rdiv_nonneg_eq, rdiv_neg_eq,
    rrem_nonneg_eq, rrem_neg_eq] at *
  try tr_abstract
  try simp only [boolToInt, Tr.absI, Tr.uabs, Tr.signum, Tr.asU64, Tr.asI64, Tr.absI64, Tr.absI32, Tr.cmpInt] at *
  try simp (disch := tr_sdisch) only [tr_eq, tr_safe, and_true, true_and, implies_true]))

/- What `tr_safe_auto` may open as its last chance: the predicates of the functions of this file and of
   Lemmas/TranslatedUnitsSafe (the later files do not get there).  A function added to the whitelist is added by hand. -/
attribute [tr_spred] Tr.date2julian_safe Tr.julian2date_safe Tr.is_leap_year_safe Tr.is_valid_date_safe Tr.is_valid_timestamp_safe
  Tr.is_valid_time_safe Tr.days_of_month_safe Tr.the_day_of_year_safe Tr.Timestamp.new_safe Tr.Timestamp.extract_safe
  Tr.Timestamp.date_safe Tr.Timestamp.time_safe Tr.Timestamp.try_from_usecs_safe Tr.Timestamp.add_interval_dt_safe
  Tr.Timestamp.sub_interval_dt_safe Tr.Timestamp.add_time_safe Tr.Timestamp.sub_time_safe
  Tr.Timestamp.sub_timestamp_safe Tr.Timestamp.sub_date_safe Tr.Timestamp.add_interval_ym_safe
  Tr.Timestamp.sub_interval_ym_safe Tr.Timestamp.last_day_of_month_safe Tr.Timestamp.trunc_day_safe
  Tr.Timestamp.trunc_hour_safe Tr.Timestamp.trunc_minute_safe Tr.Time.from_hms_unchecked_safe
  Tr.Time.try_from_hms_safe Tr.Time.is_valid_safe Tr.Time.validate_hms_safe Tr.Time.try_from_usecs_safe
  Tr.Time.extract_safe Tr.Time.sub_time_safe Tr.Time.add_interval_dt_safe Tr.Time.sub_interval_dt_safe
  Tr.Time.from_interval_dt_safe Tr.IntervalYM.from_ym_unchecked_safe Tr.IntervalYM.try_from_ym_safe
  Tr.IntervalYM.is_valid_ym_safe Tr.IntervalYM.is_valid_months_safe Tr.IntervalYM.try_from_months_safe
  Tr.IntervalYM.extract_safe Tr.IntervalYM.negate_safe Tr.IntervalYM.add_interval_ym_safe
  Tr.IntervalYM.sub_interval_ym_safe Tr.IntervalYM.cmp_safe Tr.IntervalDT.from_dhms_unchecked_safe
  Tr.IntervalDT.try_from_dhms_safe Tr.IntervalDT.is_valid_safe Tr.IntervalDT.is_valid_usecs_safe
  Tr.IntervalDT.try_from_usecs_safe Tr.IntervalDT.extract_safe Tr.IntervalDT.negate_safe
  Tr.IntervalDT.add_interval_dt_safe Tr.IntervalDT.sub_interval_dt_safe Tr.IntervalDT.sub_time_safe
  Tr.IntervalYM.mul_f64_safe Tr.IntervalYM.div_f64_safe Tr.IntervalDT.mul_f64_safe Tr.IntervalDT.div_f64_safe
  Tr.IntervalDT.second_safe Tr.Time.mul_f64_safe Tr.Time.div_f64_safe Tr.Time.second_safe Tr.Timestamp.add_days_safe
  Tr.Timestamp.sub_days_safe Tr.Timestamp.second_safe Tr.OracleDate.add_days_safe Tr.OracleDate.sub_days_safe
  Tr.OracleDate.sub_date_safe Tr.Timestamp.oracle_add_days_safe Tr.Timestamp.oracle_sub_days_safe Tr.NDT.new_safe
  Tr.NDT.hour12_safe Tr.NDT.adjust_hour12_safe Tr.NDT.of_date_safe Tr.NDT.of_time_safe Tr.NDT.of_timestamp_safe
  Tr.NDT.of_interval_ym_safe Tr.NDT.of_interval_dt_safe Tr.NDT.of_oracle_date_safe Tr.Date.try_from_ndt_ref_safe
  Tr.Date.try_from_ndt_safe Tr.Time.try_from_ndt_ref_safe Tr.Time.try_from_ndt_safe Tr.Timestamp.try_from_ndt_safe
  Tr.IntervalYM.try_from_ndt_safe Tr.IntervalDT.try_from_ndt_safe Tr.OracleDate.try_from_ndt_safe
  Tr.Date.from_ymd_unchecked_safe Tr.Date.try_from_ymd_safe Tr.Date.is_valid_safe Tr.Date.validate_ymd_safe
  Tr.Date.try_from_days_safe Tr.Date.extract_safe Tr.Date.and_zero_time_safe Tr.Date.and_time_safe
  Tr.Date.and_hms_safe Tr.Date.add_days_safe Tr.Date.sub_days_safe Tr.Date.sub_date_safe Tr.Date.day_of_week_safe
  Tr.Date.add_interval_ym_internal_safe Tr.Date.last_day_of_month_safe Tr.Date.partial_cmp_timestamp_safe
  Tr.Date.eq_timestamp_safe Tr.OracleDate.new_safe Tr.OracleDate.is_valid_date_safe Tr.OracleDate.try_from_usecs_safe
  Tr.OracleDate.from_timestamp_safe Tr.OracleDate.add_interval_dt_safe Tr.OracleDate.add_interval_ym_safe
  Tr.OracleDate.sub_interval_dt_safe Tr.OracleDate.sub_interval_ym_safe Tr.sub_to_date_safe Tr.current_date_safe
  Tr.Date.round_week_internal_safe Tr.Date.round_month_start_week_internal_safe Tr.Date.trunc_century_safe
  Tr.Date.trunc_year_safe Tr.Date.trunc_quarter_safe Tr.Date.trunc_month_safe Tr.Date.trunc_week_safe
  Tr.Date.trunc_iso_week_safe Tr.Date.trunc_month_start_week_safe Tr.Date.trunc_day_safe
  Tr.Date.trunc_sunday_start_week_safe Tr.Date.trunc_hour_safe Tr.Date.trunc_minute_safe Tr.Date.round_century_safe
  Tr.Date.round_year_safe Tr.Date.round_quarter_safe Tr.Date.round_month_safe Tr.Date.round_week_safe
  Tr.Date.round_iso_week_safe Tr.Date.round_month_start_week_safe Tr.Date.round_day_safe
  Tr.Date.round_sunday_start_week_safe Tr.Date.round_hour_safe Tr.Date.round_minute_safe

/-- `Tr.f_safe args` unfolded.  Numerals first (the hypotheses are what the discharger has), then the callees
    (`Tr.g = g`; `Tr.g_safe = True`, and the `True` removed: `omega` does not take it as a conjunct; the
    floor-division views of Lemmas/Div), then the `if`s and `match`es of the whole
    predicate are split BEFORE its conjunctions, so that each case is normalised once (`tr_shyps`, `tr_snorm`) and
    goes to `omega` whole; only a case where that fails is taken conjunct by conjunct.  Last chance for a conjunct: a
    callee reached outside the hypotheses of its theorem (a CONTRACT helper, say) may be safe all the same, so its
    predicate is opened (`tr_spred`) instead of cited. -/
macro "tr_safe_auto" : tactic => `(tactic| (
  try simp only [bind, Except.bind, pure, Except.pure]
  try tr_unfold tr_num at *
  try simp (disch := tr_sdisch) only [tr_eq, tr_safe, decide_eq_true_eq, SqlDt.Timestamp.extract_eq, SqlDt.Timestamp.date_eq,
    SqlDt.Timestamp.time_eq, SqlDt.Time.extract_eq, and_true, true_and, implies_true]
  first
  | (repeat' split
     all_goals (tr_shyps <;> (
       tr_snorm
       first
       | omega
       | (tr_sintro; all_goals first
           | omega
           | (tr_shyps <;> (tr_snorm; first | omega | tr_fin | tr_deep))
           | (simp only [tr_spred] at *
              tr_sintro <;> (try simp (disch := tr_sdisch) only [tr_eq, tr_safe]) <;>
                first | omega | (tr_snorm; first | omega | tr_fin | tr_deep))))))
  | fail "tr_safe_auto: a conjunct of the safety predicate could not be proved"))

/-- `tr_safe_auto` with calls of the model kept as variables: a result matters only through what has been stated of
    it beforehand, `h : ∀ r, call = .ok r → …`, which becomes a fact about the bound variable where the call is
    matched (`tr_shyps`).  The calls are written as they stand after the callees have been rewritten. -/
macro "tr_safe_call" ts:term,+ : tactic => `(tactic| (
  try tr_unfold tr_num at *
  try simp (disch := tr_sdisch) only [tr_eq, tr_safe]
  first
  | done
  | ($[generalize $ts:term = c at *];*
     tr_safe_auto)))

set_option hygiene false in
/-- preparation for a `Date` unit: facts about `Date::extract d` (Lemmas/Calendar: `hx`; the ranges of `d` and of its day
    of the week: `hr`, `hw`), named `(y, m, dd)` (`hE`); an alias goal is closed on the way, as in `TrEq.tr_ymd` -/
macro "tr_sdate" d:ident hd:ident : tactic => `(tactic| (
  have hx := extract_valid $d $hd
  have hr := valid_date_range' $d $hd
  have hw := dayOfWeek_range $d
  try simp (disch := tr_sdisch) only [SqlDt.TrEq.Date.extract_eq $d hr.1 hr.2, SqlDt.TrEq.Date.day_of_week_eq]
  first
  | done
  | (rcases hE : Date.extract $d with ⟨y, m, dd⟩
     simp only [hE] at *
     all_goals try dsimp only at *)))

/-! ## common.rs -/

/-- CONTRACT (internal helper of the private module `common`): the field ranges every caller in the crate establishes
    first (`try_from_ymd`, the constants, `date_to_iso_year`); for an arbitrary `i32` year `y * 365` overflows. -/
@[tr_safe] theorem date2julian_safe (year month day : Int) (hy : 0 ≤ year ∧ year ≤ 10000) (hm : 1 ≤ month ∧ month ≤ 12) (hd : 1 ≤ day ∧ day ≤ 31) :
    Tr.date2julian_safe year month day := by
  unfold Tr.date2julian_safe
  tr_safe_auto

/-- CONTRACT: a non-negative Julian day (the function's documented domain); `julian_day as u32 + 32044` overflows for -32044..-1. -/
@[tr_safe] theorem julian2date_safe (j : Int) (hj : fitsI32 j) (h0 : 0 ≤ j) :
    Tr.julian2date_safe j := by
  unfold Tr.julian2date_safe
  tr_safe_auto

@[tr_safe] theorem is_leap_year_safe (y : Int) (hy : fitsI32 y) :
    Tr.is_leap_year_safe y := by
  unfold Tr.is_leap_year_safe
  tr_safe_auto

@[tr_safe] theorem is_valid_date_safe (d : Int) (hd : fitsI32 d) :
    Tr.is_valid_date_safe d := by
  unfold Tr.is_valid_date_safe
  tr_safe_auto

@[tr_safe] theorem is_valid_timestamp_safe (t : Int) (ht : fitsI64 t) :
    Tr.is_valid_timestamp_safe t := by
  unfold Tr.is_valid_timestamp_safe
  tr_safe_auto

@[tr_safe] theorem is_valid_time_safe (t : Int) (ht : fitsI64 t) :
    Tr.is_valid_time_safe t := by
  unfold Tr.is_valid_time_safe
  tr_safe_auto

/-- CONTRACT: `month ≤ 12` (table of 13 columns); every caller checks the month first. -/
@[tr_safe] theorem days_of_month_safe (y m : Int) (hy : fitsI32 y) (hm : 0 ≤ m ∧ m ≤ 12) :
    Tr.days_of_month_safe y m := by
  unfold Tr.days_of_month_safe
  tr_safe_auto

/-- CONTRACT: month 1..12 (`month as usize - 1` indexes 12 columns), day ≤ 31. -/
@[tr_safe] theorem the_day_of_year_safe (y m d : Int) (hy : fitsI32 y) (hm : 1 ≤ m ∧ m ≤ 12) (hd : 0 ≤ d ∧ d ≤ 31) :
    Tr.the_day_of_year_safe y m d := by
  unfold Tr.the_day_of_year_safe
  have hs := sumOfDays_range (boolToInt (isLeapYear y)) (m - 1)
  tr_safe_auto


/-! ## time.rs -/

/-- CONTRACT (unchecked constructor, "check that the values are all correct"): the field ranges of `Time::is_valid`. -/
@[tr_safe] theorem Time.from_hms_unchecked_safe (h mi s us : Int) (hh : 0 ≤ h ∧ h < 24) (hmi : 0 ≤ mi ∧ mi < 60) (hs : 0 ≤ s ∧ s < 60) (hus : 0 ≤ us ∧ us ≤ 999999) :
    Tr.Time.from_hms_unchecked_safe h mi s us := by
  unfold Tr.Time.from_hms_unchecked_safe
  tr_safe_auto

@[tr_safe] theorem Time.validate_hms_safe (h mi s : Int) (hh : fitsU32 h) (hmi : fitsU32 mi) (hs : fitsU32 s) :
    Tr.Time.validate_hms_safe h mi s := by
  unfold Tr.Time.validate_hms_safe
  tr_safe_auto

@[tr_safe] theorem Time.try_from_hms_safe (h mi s us : Int) (hh : fitsU32 h) (hmi : fitsU32 mi) (hs : fitsU32 s) (hus : fitsU32 us) :
    Tr.Time.try_from_hms_safe h mi s us := by
  unfold Tr.Time.try_from_hms_safe
  tr_safe_auto

@[tr_safe] theorem Time.is_valid_safe (h mi s us : Int) (hh : fitsU32 h) (hmi : fitsU32 mi) (hs : fitsU32 s) (hus : fitsU32 us) :
    Tr.Time.is_valid_safe h mi s us := by
  unfold Tr.Time.is_valid_safe
  tr_safe_auto

@[tr_safe] theorem Time.try_from_usecs_safe (u : Int) (hu : fitsI64 u) :
    Tr.Time.try_from_usecs_safe u := by
  unfold Tr.Time.try_from_usecs_safe
  tr_safe_auto

@[tr_safe] theorem Time.extract_safe (t : Int) (ht : isValidTime t) :
    Tr.Time.extract_safe t := by
  unfold Tr.Time.extract_safe
  tr_safe_auto

@[tr_safe] theorem Time.sub_time_safe (a b : Int) (ha : isValidTime a) (hb : isValidTime b) :
    Tr.Time.sub_time_safe a b := by
  unfold Tr.Time.sub_time_safe
  tr_safe_auto

@[tr_safe] theorem IntervalDT.negate_safe (v : Int) (hv : IntervalDT.isValidUsecs v) :
    Tr.IntervalDT.negate_safe v := by
  unfold Tr.IntervalDT.negate_safe
  tr_safe_auto

@[tr_safe] theorem IntervalYM.negate_safe (v : Int) (hv : IntervalYM.isValidMonths v) :
    Tr.IntervalYM.negate_safe v := by
  unfold Tr.IntervalYM.negate_safe
  tr_safe_auto

@[tr_safe] theorem Time.add_interval_dt_safe (t i : Int) (ht : isValidTime t) (hi : IntervalDT.isValidUsecs i) :
    Tr.Time.add_interval_dt_safe t i := by
  unfold Tr.Time.add_interval_dt_safe
  tr_safe_auto

@[tr_safe] theorem Time.sub_interval_dt_safe (t i : Int) (ht : isValidTime t) (hi : IntervalDT.isValidUsecs i) :
    Tr.Time.sub_interval_dt_safe t i := by
  unfold Tr.Time.sub_interval_dt_safe
  tr_safe_auto

@[tr_safe] theorem Time.from_interval_dt_safe (i : Int) (hi : IntervalDT.isValidUsecs i) :
    Tr.Time.from_interval_dt_safe i := by
  unfold Tr.Time.from_interval_dt_safe
  tr_safe_auto


/-! ## timestamp.rs -/

@[tr_safe] theorem Timestamp.new_safe (d t : Int) (hd : isValidDate d) (ht : isValidTime t) :
    Tr.Timestamp.new_safe d t := by
  unfold Tr.Timestamp.new_safe
  tr_safe_auto

@[tr_safe] theorem Timestamp.extract_safe (ts : Int) (hts : isValidTimestamp ts) :
    Tr.Timestamp.extract_safe ts := by
  unfold Tr.Timestamp.extract_safe
  tr_safe_auto

@[tr_safe] theorem Timestamp.date_safe (ts : Int) (hts : isValidTimestamp ts) :
    Tr.Timestamp.date_safe ts := by
  unfold Tr.Timestamp.date_safe
  tr_safe_auto

@[tr_safe] theorem Timestamp.time_safe (ts : Int) (hts : isValidTimestamp ts) :
    Tr.Timestamp.time_safe ts := by
  unfold Tr.Timestamp.time_safe
  tr_safe_auto

@[tr_safe] theorem Timestamp.try_from_usecs_safe (u : Int) (hu : fitsI64 u) :
    Tr.Timestamp.try_from_usecs_safe u := by
  unfold Tr.Timestamp.try_from_usecs_safe
  tr_safe_auto

@[tr_safe] theorem Timestamp.add_interval_dt_safe (ts i : Int) (hts : isValidTimestamp ts) (hi : IntervalDT.isValidUsecs i) :
    Tr.Timestamp.add_interval_dt_safe ts i := by
  unfold Tr.Timestamp.add_interval_dt_safe
  tr_safe_auto

@[tr_safe] theorem Timestamp.sub_interval_dt_safe (ts i : Int) (hts : isValidTimestamp ts) (hi : IntervalDT.isValidUsecs i) :
    Tr.Timestamp.sub_interval_dt_safe ts i := by
  unfold Tr.Timestamp.sub_interval_dt_safe
  tr_safe_auto

@[tr_safe] theorem Timestamp.add_time_safe (ts t : Int) (hts : isValidTimestamp ts) (ht : isValidTime t) :
    Tr.Timestamp.add_time_safe ts t := by
  unfold Tr.Timestamp.add_time_safe
  tr_safe_auto

@[tr_safe] theorem Timestamp.sub_time_safe (ts t : Int) (hts : isValidTimestamp ts) (ht : isValidTime t) :
    Tr.Timestamp.sub_time_safe ts t := by
  unfold Tr.Timestamp.sub_time_safe
  tr_safe_auto

@[tr_safe] theorem Timestamp.sub_timestamp_safe (a b : Int) (ha : isValidTimestamp a) (hb : isValidTimestamp b) :
    Tr.Timestamp.sub_timestamp_safe a b := by
  unfold Tr.Timestamp.sub_timestamp_safe
  tr_safe_auto

@[tr_safe] theorem Date.and_zero_time_safe (d : Int) (hd : isValidDate d) :
    Tr.Date.and_zero_time_safe d := by
  unfold Tr.Date.and_zero_time_safe
  tr_safe_auto

@[tr_safe] theorem Date.and_time_safe (d t : Int) (hd : isValidDate d) (ht : isValidTime t) :
    Tr.Date.and_time_safe d t := by
  unfold Tr.Date.and_time_safe
  tr_safe_auto

@[tr_safe] theorem Timestamp.sub_date_safe (ts d : Int) (hts : isValidTimestamp ts) (hd : isValidDate d) :
    Tr.Timestamp.sub_date_safe ts d := by
  unfold Tr.Timestamp.sub_date_safe
  tr_safe_auto


/-! ## interval.rs -/

/-- CONTRACT (unchecked constructor): the field ranges of `IntervalYM::is_valid_ym`; `year * 12` is a `u32` product. -/
@[tr_safe] theorem IntervalYM.from_ym_unchecked_safe (y m : Int) (hy : 0 ≤ y ∧ y ≤ 178000000) (hm : 0 ≤ m ∧ m < 12) :
    Tr.IntervalYM.from_ym_unchecked_safe y m := by
  unfold Tr.IntervalYM.from_ym_unchecked_safe
  tr_safe_auto

@[tr_safe] theorem IntervalYM.try_from_ym_safe (y m : Int) (hy : fitsU32 y) (hm : fitsU32 m) :
    Tr.IntervalYM.try_from_ym_safe y m := by
  unfold Tr.IntervalYM.try_from_ym_safe
  tr_safe_auto

@[tr_safe] theorem IntervalYM.is_valid_ym_safe (y m : Int) (hy : fitsU32 y) (hm : fitsU32 m) :
    Tr.IntervalYM.is_valid_ym_safe y m := by
  unfold Tr.IntervalYM.is_valid_ym_safe
  tr_safe_auto

@[tr_safe] theorem IntervalYM.is_valid_months_safe (m : Int) (hm : fitsI32 m) :
    Tr.IntervalYM.is_valid_months_safe m := by
  unfold Tr.IntervalYM.is_valid_months_safe
  tr_safe_auto

@[tr_safe] theorem IntervalYM.try_from_months_safe (m : Int) (hm : fitsI32 m) :
    Tr.IntervalYM.try_from_months_safe m := by
  unfold Tr.IntervalYM.try_from_months_safe
  tr_safe_auto

@[tr_safe] theorem IntervalYM.extract_safe (v : Int) (hv : IntervalYM.isValidMonths v) :
    Tr.IntervalYM.extract_safe v := by
  unfold Tr.IntervalYM.extract_safe
  tr_safe_auto

@[tr_safe] theorem IntervalYM.add_interval_ym_safe (a b : Int) (ha : IntervalYM.isValidMonths a) (hb : IntervalYM.isValidMonths b) :
    Tr.IntervalYM.add_interval_ym_safe a b := by
  unfold Tr.IntervalYM.add_interval_ym_safe
  tr_safe_auto

@[tr_safe] theorem IntervalYM.sub_interval_ym_safe (a b : Int) (ha : IntervalYM.isValidMonths a) (hb : IntervalYM.isValidMonths b) :
    Tr.IntervalYM.sub_interval_ym_safe a b := by
  unfold Tr.IntervalYM.sub_interval_ym_safe
  tr_safe_auto

@[tr_safe] theorem IntervalYM.cmp_safe (a b : Int) (ha : IntervalYM.isValidMonths a) (hb : IntervalYM.isValidMonths b) :
    Tr.IntervalYM.cmp_safe a b := by
  unfold Tr.IntervalYM.cmp_safe
  tr_safe_auto

/-- CONTRACT (unchecked constructor): the field ranges of `IntervalDT::is_valid`. -/
@[tr_safe] theorem IntervalDT.from_dhms_unchecked_safe (d h mi s us : Int) (hd : 0 ≤ d ∧ d ≤ 100000000) (hh : 0 ≤ h ∧ h < 24) (hmi : 0 ≤ mi ∧ mi < 60) (hs : 0 ≤ s ∧ s < 60) (hus : 0 ≤ us ∧ us ≤ 999999) :
    Tr.IntervalDT.from_dhms_unchecked_safe d h mi s us := by
  unfold Tr.IntervalDT.from_dhms_unchecked_safe
  tr_safe_auto

@[tr_safe] theorem IntervalDT.try_from_dhms_safe (d h mi s us : Int) (hd : fitsU32 d) (hh : fitsU32 h) (hmi : fitsU32 mi) (hs : fitsU32 s) (hus : fitsU32 us) :
    Tr.IntervalDT.try_from_dhms_safe d h mi s us := by
  unfold Tr.IntervalDT.try_from_dhms_safe
  tr_safe_auto

@[tr_safe] theorem IntervalDT.is_valid_safe (d h mi s us : Int) (hd : fitsU32 d) (hh : fitsU32 h) (hmi : fitsU32 mi) (hs : fitsU32 s) (hus : fitsU32 us) :
    Tr.IntervalDT.is_valid_safe d h mi s us := by
  unfold Tr.IntervalDT.is_valid_safe
  tr_safe_auto

@[tr_safe] theorem IntervalDT.is_valid_usecs_safe (u : Int) (hu : fitsI64 u) :
    Tr.IntervalDT.is_valid_usecs_safe u := by
  unfold Tr.IntervalDT.is_valid_usecs_safe
  tr_safe_auto

@[tr_safe] theorem IntervalDT.try_from_usecs_safe (u : Int) (hu : fitsI64 u) :
    Tr.IntervalDT.try_from_usecs_safe u := by
  unfold Tr.IntervalDT.try_from_usecs_safe
  tr_safe_auto

@[tr_safe] theorem IntervalDT.extract_safe (v : Int) (hv : IntervalDT.isValidUsecs v) :
    Tr.IntervalDT.extract_safe v := by
  unfold Tr.IntervalDT.extract_safe
  tr_safe_auto

@[tr_safe] theorem IntervalDT.add_interval_dt_safe (a b : Int) (ha : IntervalDT.isValidUsecs a) (hb : IntervalDT.isValidUsecs b) :
    Tr.IntervalDT.add_interval_dt_safe a b := by
  unfold Tr.IntervalDT.add_interval_dt_safe
  tr_safe_auto

@[tr_safe] theorem IntervalDT.sub_interval_dt_safe (a b : Int) (ha : IntervalDT.isValidUsecs a) (hb : IntervalDT.isValidUsecs b) :
    Tr.IntervalDT.sub_interval_dt_safe a b := by
  unfold Tr.IntervalDT.sub_interval_dt_safe
  tr_safe_auto

@[tr_safe] theorem IntervalDT.sub_time_safe (v t : Int) (hv : IntervalDT.isValidUsecs v) (ht : isValidTime t) :
    Tr.IntervalDT.sub_time_safe v t := by
  unfold Tr.IntervalDT.sub_time_safe
  tr_safe_auto


/-! ## date.rs -/

/-- CONTRACT (unchecked constructor): the field ranges of `Date::is_valid` (years 0..10000 as for `date2julian`). -/
@[tr_safe] theorem Date.from_ymd_unchecked_safe (y m d : Int) (hy : 0 ≤ y ∧ y ≤ 10000) (hm : 1 ≤ m ∧ m ≤ 12) (hd : 1 ≤ d ∧ d ≤ 31) :
    Tr.Date.from_ymd_unchecked_safe y m d := by
  unfold Tr.Date.from_ymd_unchecked_safe
  have hj := date2julian_range y m d hy hm hd
  tr_safe_auto

@[tr_safe] theorem Date.validate_ymd_safe (y m d : Int) (hy : fitsI32 y) (hm : fitsU32 m) (hd : fitsU32 d) :
    Tr.Date.validate_ymd_safe y m d := by
  unfold Tr.Date.validate_ymd_safe
  tr_safe_auto

@[tr_safe] theorem Date.try_from_ymd_safe (y m d : Int) (hy : fitsI32 y) (hm : fitsU32 m) (hd : fitsU32 d) :
    Tr.Date.try_from_ymd_safe y m d := by
  unfold Tr.Date.try_from_ymd_safe
  tr_safe_auto

@[tr_safe] theorem Date.is_valid_safe (y m d : Int) (hy : fitsI32 y) (hm : fitsU32 m) (hd : fitsU32 d) :
    Tr.Date.is_valid_safe y m d := by
  unfold Tr.Date.is_valid_safe
  tr_safe_auto

@[tr_safe] theorem Date.try_from_days_safe (d : Int) (hd : fitsI32 d) :
    Tr.Date.try_from_days_safe d := by
  unfold Tr.Date.try_from_days_safe
  tr_safe_auto

@[tr_safe] theorem Date.extract_safe (d : Int) (hd : isValidDate d) :
    Tr.Date.extract_safe d := by
  unfold Tr.Date.extract_safe
  tr_safe_auto

@[tr_safe] theorem Date.and_hms_safe (d h mi s us : Int) (hd : isValidDate d) (hh : fitsU32 h) (hmi : fitsU32 mi) (hs : fitsU32 s) (hus : fitsU32 us) :
    Tr.Date.and_hms_safe d h mi s us := by
  unfold Tr.Date.and_hms_safe
  tr_safe_auto

@[tr_safe] theorem Date.add_days_safe (d k : Int) (hd : isValidDate d) (hk : fitsI32 k) :
    Tr.Date.add_days_safe d k := by
  unfold Tr.Date.add_days_safe
  tr_safe_auto

@[tr_safe] theorem Date.sub_days_safe (d k : Int) (hd : isValidDate d) (hk : fitsI32 k) :
    Tr.Date.sub_days_safe d k := by
  unfold Tr.Date.sub_days_safe
  tr_safe_auto

@[tr_safe] theorem Date.sub_date_safe (a b : Int) (ha : isValidDate a) (hb : isValidDate b) :
    Tr.Date.sub_date_safe a b := by
  unfold Tr.Date.sub_date_safe
  tr_safe_auto

@[tr_safe] theorem Date.day_of_week_safe (d : Int) (hd : isValidDate d) :
    Tr.Date.day_of_week_safe d := by
  unfold Tr.Date.day_of_week_safe
  tr_safe_auto


/-! ## oracle.rs -/

@[tr_safe] theorem OracleDate.new_safe (d t : Int) (hd : isValidDate d) (ht : isValidTime t) :
    Tr.OracleDate.new_safe d t := by
  unfold Tr.OracleDate.new_safe
  tr_safe_auto

@[tr_safe] theorem OracleDate.is_valid_date_safe (u : Int) (hu : fitsI64 u) :
    Tr.OracleDate.is_valid_date_safe u := by
  unfold Tr.OracleDate.is_valid_date_safe
  tr_safe_auto

@[tr_safe] theorem OracleDate.try_from_usecs_safe (u : Int) (hu : fitsI64 u) :
    Tr.OracleDate.try_from_usecs_safe u := by
  unfold Tr.OracleDate.try_from_usecs_safe
  tr_safe_auto

@[tr_safe] theorem OracleDate.from_timestamp_safe (ts : Int) (hts : isValidTimestamp ts) :
    Tr.OracleDate.from_timestamp_safe ts := by
  unfold Tr.OracleDate.from_timestamp_safe
  tr_safe_auto

@[tr_safe] theorem OracleDate.add_interval_dt_safe (od i : Int) (hod : OracleDate.isValidDate od) (hi : IntervalDT.isValidUsecs i) :
    Tr.OracleDate.add_interval_dt_safe od i := by
  unfold Tr.OracleDate.add_interval_dt_safe
  tr_safe_auto

@[tr_safe] theorem OracleDate.sub_interval_dt_safe (od i : Int) (hod : OracleDate.isValidDate od) (hi : IntervalDT.isValidUsecs i) :
    Tr.OracleDate.sub_interval_dt_safe od i := by
  unfold Tr.OracleDate.sub_interval_dt_safe
  tr_safe_auto


/-! ## month arithmetic, truncation, mixed comparison -/

@[tr_safe] theorem Date.add_interval_ym_internal_safe (d i : Int) (hd : isValidDate d) (hi : IntervalYM.isValidMonths i) :
    Tr.Date.add_interval_ym_internal_safe d i := by
  unfold Tr.Date.add_interval_ym_internal_safe
  tr_sdate d hd
  tr_safe_auto

@[tr_safe] theorem Timestamp.add_interval_ym_safe (ts i : Int) (hts : isValidTimestamp ts) (hi : IntervalYM.isValidMonths i) :
    Tr.Timestamp.add_interval_ym_safe ts i := by
  unfold Tr.Timestamp.add_interval_ym_safe
  have hb := (isValidTimestamp_iff ts).1 hts
  have hd := valid_ts_date ts hts
  have hr : ∀ r, Date.addIntervalYmInternal (ts / 86400000000) i = .ok r → isValidDate r :=
    fun r h => C09.addMonths_ok_valid _ _ _ h
  try simp (disch := omega) only [tr_eq, SqlDt.Timestamp.extract_eq]
  tr_safe_call Date.addIntervalYmInternal (ts / 86400000000) i

@[tr_safe] theorem Timestamp.sub_interval_ym_safe (ts i : Int) (hts : isValidTimestamp ts) (hi : IntervalYM.isValidMonths i) :
    Tr.Timestamp.sub_interval_ym_safe ts i := by
  unfold Tr.Timestamp.sub_interval_ym_safe
  tr_safe_auto

@[tr_safe] theorem OracleDate.add_interval_ym_safe (od i : Int) (hod : OracleDate.isValidDate od) (hi : IntervalYM.isValidMonths i) :
    Tr.OracleDate.add_interval_ym_safe od i := by
  unfold Tr.OracleDate.add_interval_ym_safe
  have hts : isValidTimestamp od := hod.1
  have hr := ts_addMonths_ok_valid od i
  tr_safe_call Timestamp.addIntervalYm od i

@[tr_safe] theorem OracleDate.sub_interval_ym_safe (od i : Int) (hod : OracleDate.isValidDate od) (hi : IntervalYM.isValidMonths i) :
    Tr.OracleDate.sub_interval_ym_safe od i := by
  unfold Tr.OracleDate.sub_interval_ym_safe
  tr_safe_auto

@[tr_safe] theorem Date.last_day_of_month_safe (d : Int) (hd : isValidDate d) :
    Tr.Date.last_day_of_month_safe d := by
  unfold Tr.Date.last_day_of_month_safe
  tr_sdate d hd
  tr_safe_auto

@[tr_safe] theorem Timestamp.last_day_of_month_safe (ts : Int) (hts : isValidTimestamp ts) :
    Tr.Timestamp.last_day_of_month_safe ts := by
  unfold Tr.Timestamp.last_day_of_month_safe
  have hb := (isValidTimestamp_iff ts).1 hts
  have hd := valid_ts_date ts hts
  try simp (disch := omega) only [SqlDt.TrEq.Timestamp.extract_eq, SqlDt.Timestamp.extract_eq]
  first
  | done
  | (generalize ts / 86400000000 = d at *
     tr_sdate d hd
     tr_safe_auto)

@[tr_safe] theorem Timestamp.trunc_day_safe (ts : Int) (hts : isValidTimestamp ts) :
    Tr.Timestamp.trunc_day_safe ts := by
  unfold Tr.Timestamp.trunc_day_safe
  tr_safe_auto

@[tr_safe] theorem Timestamp.trunc_hour_safe (ts : Int) (hts : isValidTimestamp ts) :
    Tr.Timestamp.trunc_hour_safe ts := by
  unfold Tr.Timestamp.trunc_hour_safe
  tr_safe_auto

@[tr_safe] theorem Timestamp.trunc_minute_safe (ts : Int) (hts : isValidTimestamp ts) :
    Tr.Timestamp.trunc_minute_safe ts := by
  unfold Tr.Timestamp.trunc_minute_safe
  have hb := (isValidTimestamp_iff ts).1 hts
  -- the time of day and its fields as the quotients of Lemmas/Div: `Time.extract_eq` asks for a non-negative time
  try simp (disch := omega) only [SqlDt.TrEq.Timestamp.time_eq, SqlDt.Timestamp.time_eq, SqlDt.TrEq.Time.extract_eq,
    SqlDt.Time.extract_eq]
  tr_safe_auto

@[tr_safe] theorem Date.partial_cmp_timestamp_safe (d ts : Int) (hd : isValidDate d) (hts : isValidTimestamp ts) :
    Tr.Date.partial_cmp_timestamp_safe d ts := by
  unfold Tr.Date.partial_cmp_timestamp_safe
  tr_safe_auto

@[tr_safe] theorem Date.eq_timestamp_safe (d ts : Int) (hd : isValidDate d) (hts : isValidTimestamp ts) :
    Tr.Date.eq_timestamp_safe d ts := by
  unfold Tr.Date.eq_timestamp_safe
  tr_safe_auto

/-! ## The functions that go through `f64`: float operations never panic, so only the integer nodes around
    them carry obligations; the saturating casts `as i64/i32/u32` deliver a value of the target type. -/

@[tr_safe] theorem IntervalYM.mul_f64_safe (v : Int) (x : F64) (hv : IntervalYM.isValidMonths v) :
    Tr.IntervalYM.mul_f64_safe v x := by
  unfold Tr.IntervalYM.mul_f64_safe
  tr_safe_auto

@[tr_safe] theorem IntervalYM.div_f64_safe (v : Int) (x : F64) (hv : IntervalYM.isValidMonths v) :
    Tr.IntervalYM.div_f64_safe v x := by
  unfold Tr.IntervalYM.div_f64_safe
  tr_safe_auto

@[tr_safe] theorem IntervalDT.mul_f64_safe (v : Int) (x : F64) (hv : IntervalDT.isValidUsecs v) :
    Tr.IntervalDT.mul_f64_safe v x := by
  unfold Tr.IntervalDT.mul_f64_safe
  tr_safe_auto

@[tr_safe] theorem IntervalDT.div_f64_safe (v : Int) (x : F64) (hv : IntervalDT.isValidUsecs v) :
    Tr.IntervalDT.div_f64_safe v x := by
  unfold Tr.IntervalDT.div_f64_safe
  tr_safe_auto

@[tr_safe] theorem IntervalDT.second_safe (v : Int) (hv : IntervalDT.isValidUsecs v) :
    Tr.IntervalDT.second_safe v := by
  unfold Tr.IntervalDT.second_safe
  tr_safe_auto

@[tr_safe] theorem Time.mul_f64_safe (t : Int) (x : F64) (ht : isValidTime t) :
    Tr.Time.mul_f64_safe t x := by
  unfold Tr.Time.mul_f64_safe
  tr_safe_auto

@[tr_safe] theorem Time.div_f64_safe (t : Int) (x : F64) (ht : isValidTime t) :
    Tr.Time.div_f64_safe t x := by
  unfold Tr.Time.div_f64_safe
  tr_safe_auto

@[tr_safe] theorem Time.second_safe (t : Int) (ht : isValidTime t) :
    Tr.Time.second_safe t := by
  unfold Tr.Time.second_safe
  tr_safe_auto

@[tr_safe] theorem Timestamp.add_days_safe (ts : Int) (x : F64) (hts : isValidTimestamp ts) :
    Tr.Timestamp.add_days_safe ts x := by
  unfold Tr.Timestamp.add_days_safe
  tr_safe_auto

@[tr_safe] theorem Timestamp.sub_days_safe (ts : Int) (x : F64) (hts : isValidTimestamp ts) :
    Tr.Timestamp.sub_days_safe ts x := by
  unfold Tr.Timestamp.sub_days_safe
  tr_safe_auto

@[tr_safe] theorem Timestamp.second_safe (ts : Int) (hts : isValidTimestamp ts) :
    Tr.Timestamp.second_safe ts := by
  unfold Tr.Timestamp.second_safe
  tr_safe_auto

@[tr_safe] theorem OracleDate.add_days_safe (od : Int) (x : F64) (hod : OracleDate.isValidDate od) :
    Tr.OracleDate.add_days_safe od x := by
  unfold Tr.OracleDate.add_days_safe
  -- What the rounding to the second needs of the sum: that it is a valid timestamp, and the size of its quotient and
  -- remainder by 10⁶ without their sign cases.
  have hr : ∀ r, Timestamp.addDays od x = .ok r → isValidTimestamp r ∧
      rdiv r 1000000 * 1000000 + rrem r 1000000 = r ∧ -1000000 < rrem r 1000000 ∧ rrem r 1000000 < 1000000 :=
    fun r h => ⟨Timestamp.addDays_ok_valid od x r h, rdiv_mul_add_rrem r 1000000, rrem_lt r (by decide)⟩
  tr_safe_call Timestamp.addDays od x

@[tr_safe] theorem OracleDate.sub_days_safe (od : Int) (x : F64) (hod : OracleDate.isValidDate od) :
    Tr.OracleDate.sub_days_safe od x := by
  unfold Tr.OracleDate.sub_days_safe
  tr_safe_auto

@[tr_safe] theorem OracleDate.sub_date_safe (a b : Int) (ha : OracleDate.isValidDate a) (hb : OracleDate.isValidDate b) :
    Tr.OracleDate.sub_date_safe a b := by
  unfold Tr.OracleDate.sub_date_safe
  tr_safe_auto

@[tr_safe] theorem Timestamp.oracle_add_days_safe (ts : Int) (x : F64) (hts : isValidTimestamp ts) :
    Tr.Timestamp.oracle_add_days_safe ts x := by
  unfold Tr.Timestamp.oracle_add_days_safe
  have hv := OracleDate.fromTimestamp_valid ts hts
  tr_safe_auto

@[tr_safe] theorem Timestamp.oracle_sub_days_safe (ts : Int) (x : F64) (hts : isValidTimestamp ts) :
    Tr.Timestamp.oracle_sub_days_safe ts x := by
  unfold Tr.Timestamp.oracle_sub_days_safe
  have hv := OracleDate.fromTimestamp_valid ts hts
  tr_safe_auto

/-! ## The conversion layer `format::NaiveDateTime`.  A `NaiveDateTime` is a plain record, not a validated
    value: the hypotheses say that each field lies in its Rust type. -/

@[tr_safe] theorem NDT.new_safe : Tr.NDT.new_safe := by
  unfold Tr.NDT.new_safe
  exact True.intro

/-- CONTRACT: an hour of the day (needed only for the arithmetic form `(hour + 11) % 12 + 1` of `harmless.diff`). -/
@[tr_safe] theorem NDT.hour12_safe (dt : NDT) (hy : fitsI32 dt.year) (hmo : fitsU32 dt.month) (hd : fitsU32 dt.day) (hh : fitsU32 dt.hour) (hmi : fitsU32 dt.minute) (hs : fitsU32 dt.sec) (hus : fitsU32 dt.usec) (hc : dt.hour ≤ 23) :
    Tr.NDT.hour12_safe dt := by
  unfold Tr.NDT.hour12_safe
  tr_safe_auto

/-- CONTRACT (crate-internal `&mut self` helper of the parser): an hour of the day; `self.hour + 12` is a `u32` sum. -/
@[tr_safe] theorem NDT.adjust_hour12_safe (dt : NDT) (hy : fitsI32 dt.year) (hmo : fitsU32 dt.month) (hd : fitsU32 dt.day) (hh : fitsU32 dt.hour) (hmi : fitsU32 dt.minute) (hs : fitsU32 dt.sec) (hus : fitsU32 dt.usec) (hc : dt.hour ≤ 23) :
    Tr.NDT.adjust_hour12_safe dt := by
  unfold Tr.NDT.adjust_hour12_safe
  tr_safe_auto

@[tr_safe] theorem NDT.of_date_safe (d : Int) (hd : isValidDate d) :
    Tr.NDT.of_date_safe d := by
  unfold Tr.NDT.of_date_safe
  tr_safe_auto

@[tr_safe] theorem NDT.of_time_safe (t : Int) (ht : isValidTime t) :
    Tr.NDT.of_time_safe t := by
  unfold Tr.NDT.of_time_safe
  tr_safe_auto

@[tr_safe] theorem NDT.of_timestamp_safe (ts : Int) (hts : isValidTimestamp ts) :
    Tr.NDT.of_timestamp_safe ts := by
  unfold Tr.NDT.of_timestamp_safe
  tr_safe_auto

@[tr_safe] theorem NDT.of_interval_ym_safe (v : Int) (hv : IntervalYM.isValidMonths v) :
    Tr.NDT.of_interval_ym_safe v := by
  unfold Tr.NDT.of_interval_ym_safe
  tr_safe_auto

@[tr_safe] theorem NDT.of_interval_dt_safe (v : Int) (hv : IntervalDT.isValidUsecs v) :
    Tr.NDT.of_interval_dt_safe v := by
  unfold Tr.NDT.of_interval_dt_safe
  tr_safe_auto

@[tr_safe] theorem NDT.of_oracle_date_safe (od : Int) (hod : OracleDate.isValidDate od) :
    Tr.NDT.of_oracle_date_safe od := by
  unfold Tr.NDT.of_oracle_date_safe
  tr_safe_auto

@[tr_safe] theorem Date.try_from_ndt_ref_safe (dt : NDT) (hy : fitsI32 dt.year) (hmo : fitsU32 dt.month) (hd : fitsU32 dt.day) (hh : fitsU32 dt.hour) (hmi : fitsU32 dt.minute) (hs : fitsU32 dt.sec) (hus : fitsU32 dt.usec) :
    Tr.Date.try_from_ndt_ref_safe dt := by
  unfold Tr.Date.try_from_ndt_ref_safe
  tr_safe_auto

@[tr_safe] theorem Date.try_from_ndt_safe (dt : NDT) (hy : fitsI32 dt.year) (hmo : fitsU32 dt.month) (hd : fitsU32 dt.day) (hh : fitsU32 dt.hour) (hmi : fitsU32 dt.minute) (hs : fitsU32 dt.sec) (hus : fitsU32 dt.usec) :
    Tr.Date.try_from_ndt_safe dt := by
  unfold Tr.Date.try_from_ndt_safe
  tr_safe_auto

@[tr_safe] theorem Time.try_from_ndt_ref_safe (dt : NDT) (hy : fitsI32 dt.year) (hmo : fitsU32 dt.month) (hd : fitsU32 dt.day) (hh : fitsU32 dt.hour) (hmi : fitsU32 dt.minute) (hs : fitsU32 dt.sec) (hus : fitsU32 dt.usec) :
    Tr.Time.try_from_ndt_ref_safe dt := by
  unfold Tr.Time.try_from_ndt_ref_safe
  tr_safe_auto

@[tr_safe] theorem Time.try_from_ndt_safe (dt : NDT) (hy : fitsI32 dt.year) (hmo : fitsU32 dt.month) (hd : fitsU32 dt.day) (hh : fitsU32 dt.hour) (hmi : fitsU32 dt.minute) (hs : fitsU32 dt.sec) (hus : fitsU32 dt.usec) :
    Tr.Time.try_from_ndt_safe dt := by
  unfold Tr.Time.try_from_ndt_safe
  tr_safe_auto

@[tr_safe] theorem Timestamp.try_from_ndt_safe (dt : NDT) (hy : fitsI32 dt.year) (hmo : fitsU32 dt.month) (hd : fitsU32 dt.day) (hh : fitsU32 dt.hour) (hmi : fitsU32 dt.minute) (hs : fitsU32 dt.sec) (hus : fitsU32 dt.usec) :
    Tr.Timestamp.try_from_ndt_safe dt := by
  unfold Tr.Timestamp.try_from_ndt_safe
  have hv := validateYmd_ok dt.year dt.month dt.day
  have hj := validateYmd_ok_julian dt.year dt.month dt.day
  have hw := validateHms_ok dt.hour dt.minute dt.sec
  tr_safe_call Date.validateYmd dt.year dt.month dt.day, Time.validateHms dt.hour dt.minute dt.sec

@[tr_safe] theorem IntervalDT.try_from_ndt_safe (dt : NDT) (hy : fitsI32 dt.year) (hmo : fitsU32 dt.month) (hd : fitsU32 dt.day) (hh : fitsU32 dt.hour) (hmi : fitsU32 dt.minute) (hs : fitsU32 dt.sec) (hus : fitsU32 dt.usec) :
    Tr.IntervalDT.try_from_ndt_safe dt := by
  unfold Tr.IntervalDT.try_from_ndt_safe
  have hw : ∀ r, IntervalDT.tryFromDhms dt.day dt.hour dt.minute dt.sec 0 = .ok r → IntervalDT.isValidUsecs r :=
    fun r h => C13.dt_tryFromDhms_valid _ _ _ _ _ r hd.1 hh.1 hmi.1 hs.1 (Int.le_refl 0) h
  tr_safe_call IntervalDT.tryFromDhms dt.day dt.hour dt.minute dt.sec 0

@[tr_safe] theorem OracleDate.try_from_ndt_safe (dt : NDT) (hy : fitsI32 dt.year) (hmo : fitsU32 dt.month) (hd : fitsU32 dt.day) (hh : fitsU32 dt.hour) (hmi : fitsU32 dt.minute) (hs : fitsU32 dt.sec) (hus : fitsU32 dt.usec) :
    Tr.OracleDate.try_from_ndt_safe dt := by
  unfold Tr.OracleDate.try_from_ndt_safe
  have hr := tryFromNDT_TS_ok_valid dt
  tr_safe_call Parser.tryFromNDT .TS dt

/-- CONTRACT (crate-internal record): `-dt.year` is an `i32` negation, so the year must not be `i32::MIN`. -/
@[tr_safe] theorem IntervalYM.try_from_ndt_safe (dt : NDT) (hy : fitsI32 dt.year) (hmo : fitsU32 dt.month) (hd : fitsU32 dt.day) (hh : fitsU32 dt.hour) (hmi : fitsU32 dt.minute) (hs : fitsU32 dt.sec) (hus : fitsU32 dt.usec) (hc : -2147483648 < dt.year) :
    Tr.IntervalYM.try_from_ndt_safe dt := by
  unfold Tr.IntervalYM.try_from_ndt_safe
  tr_safe_auto

/-! ## Calendar units -/

@[tr_safe] theorem sub_to_date_safe (d k : Int) (hd : isValidDate d) (hk : fitsI32 k) : Tr.sub_to_date_safe d k := by
  unfold Tr.sub_to_date_safe
  tr_safe_auto

@[tr_safe] theorem current_date_safe (d k : Int) (hd : isValidDate d) (hk : fitsI32 k) : Tr.current_date_safe d k := by
  unfold Tr.current_date_safe
  tr_safe_auto

@[tr_safe] theorem Date.trunc_year_safe (d : Int) (hd : isValidDate d) :
    Tr.Date.trunc_year_safe d := by
  unfold Tr.Date.trunc_year_safe
  tr_sdate d hd
  tr_safe_auto

@[tr_safe] theorem Date.trunc_week_safe (d : Int) (hd : isValidDate d) :
    Tr.Date.trunc_week_safe d := by
  unfold Tr.Date.trunc_week_safe
  have hf := first_of_year_le d hd
  have hv := first_of_year_valid d hd
  tr_sdate d hd
  tr_safe_auto

@[tr_safe] theorem Date.trunc_day_safe (d : Int) (hd : isValidDate d) :
    Tr.Date.trunc_day_safe d := by
  unfold Tr.Date.trunc_day_safe
  tr_sdate d hd
  tr_safe_auto

@[tr_safe] theorem Date.trunc_hour_safe (d : Int) (hd : isValidDate d) :
    Tr.Date.trunc_hour_safe d := by
  unfold Tr.Date.trunc_hour_safe
  tr_sdate d hd
  tr_safe_auto

@[tr_safe] theorem Date.trunc_minute_safe (d : Int) (hd : isValidDate d) :
    Tr.Date.trunc_minute_safe d := by
  unfold Tr.Date.trunc_minute_safe
  tr_sdate d hd
  tr_safe_auto

@[tr_safe] theorem Date.trunc_sunday_start_week_safe (d : Int) (hd : isValidDate d) :
    Tr.Date.trunc_sunday_start_week_safe d := by
  unfold Tr.Date.trunc_sunday_start_week_safe
  tr_sdate d hd
  tr_safe_auto

@[tr_safe] theorem Date.round_century_safe (d : Int) (hd : isValidDate d) :
    Tr.Date.round_century_safe d := by
  unfold Tr.Date.round_century_safe
  tr_sdate d hd
  tr_safe_auto

@[tr_safe] theorem Date.round_year_safe (d : Int) (hd : isValidDate d) :
    Tr.Date.round_year_safe d := by
  unfold Tr.Date.round_year_safe
  tr_sdate d hd
  tr_safe_auto

@[tr_safe] theorem Date.round_day_safe (d : Int) (hd : isValidDate d) :
    Tr.Date.round_day_safe d := by
  unfold Tr.Date.round_day_safe
  tr_sdate d hd
  tr_safe_auto

@[tr_safe] theorem Date.round_hour_safe (d : Int) (hd : isValidDate d) :
    Tr.Date.round_hour_safe d := by
  unfold Tr.Date.round_hour_safe
  tr_sdate d hd
  tr_safe_auto

@[tr_safe] theorem Date.round_minute_safe (d : Int) (hd : isValidDate d) :
    Tr.Date.round_minute_safe d := by
  unfold Tr.Date.round_minute_safe
  tr_sdate d hd
  tr_safe_auto

end SqlDt.TrSafe
