/-
  Lemmas/ReadingCanonValue: the components recorded from the canonical reading of a complete picture give back the
  calendar date (also through the day of the year, with consistent extra weekday / month / day tokens) and the time of day
  (24-hour clock, or 12-hour clock with meridian) they came from.
-/
import SqlDt.Lemmas.ReadingCanonStep
import SqlDt.Lemmas.ReadingDoy
namespace SqlDt.Lemmas
open Spec

theorem getD_of_agree {α : Type} {o : Option α} {P : α → Prop} (hag : ∀ x, o = some x → P x) (h : o.isSome = true)
    (d : α) : P (o.getD d) := by
  cases o with
  | none => cases h
  | some x => exact hag x rfl

theorem all_of_agree {α : Type} {o : Option α} {P : α → Prop} [DecidablePred P] (hag : ∀ x, o = some x → P x) :
    o.all (fun x => decide (P x)) = true := by
  cases o with
  | none => rfl
  | some x => simpa using hag x rfl

theorem complete_date (ty : Ty) (s : Seen) (h : complete ty s = true) (hd : hasDate ty = true) :
    s.year = true ∧ ((s.month = true ∧ s.day = true) ∨ s.doy = true) := by
  cases ty <;> simp_all [complete, hasDate]

theorem complete_time (ty : Ty) (s : Seen) (h : complete ty s = true) (ht : hasTime ty = true) :
    (s.hour24 = true ∨ (s.hour12 = true ∧ s.meridian = true)) ∧ s.minute = true ∧ s.second = true ∧
      (s.frac = true ∨ ty = .OD) := by
  cases ty <;> simp_all [complete, hasTime]

theorem dateOf_canon (ty : Ty) (c : Comps) (p : Parts) (now : Clock) (hv : ValidYMD c.year c.month c.day)
    (hcw : c.dow0 = weekday (dayNumber c.year c.month c.day)) (hco : c.doy = daysBeforeMonth c.year c.month + c.day)
    (hag : Agree ty c p) (hd : hasDate ty = true) (hcomp : complete ty (flagsOf p) = true) :
    dateOf p now = some (c.year, c.month, c.day) := by
  obtain ⟨hY, hmd⟩ := complete_date ty _ hcomp hd
  obtain ⟨y1, y9, hisd⟩ := hv
  obtain ⟨hord, hlen⟩ := ordinal_spec _ _ _ hisd
  have hdr := doy_range _ _ _ hisd
  have hyear : p.year.getD now.year = c.year := getD_of_agree hag.year hY _
  have hmdof : monthDayOf p now c.year = some (c.month, c.day) := by
    unfold monthDayOf
    cases hn : p.doy with
    | none =>
      simp only [flagsOf, hn, Option.isSome_none, Bool.false_eq_true, or_false] at hmd
      have e1 := getD_of_agree hag.month hmd.1 0
      have e2 := getD_of_agree hag.day hmd.2 1
      obtain ⟨mm, hpm⟩ := Option.isSome_iff_exists.1 hmd.1
      simp only [hpm, Option.getD_some] at e1
      simp [hpm, e1, e2]
    | some n =>
      have en := hag.doy n hn
      rw [hco] at en
      have hrange : 1 ≤ n ∧ n ≤ (if isLeap c.year = true then 366 else 365) := by
        constructor
        · omega
        · have := hlen; split at this <;> split <;> simp_all <;> omega
      simp only [hrange, and_self, not_true_eq_false, ↓reduceIte, en, hord]
      have hd' : daysBeforeMonth c.year c.month + c.day - daysBeforeMonth c.year c.month = c.day := by omega
      rw [hd']
      simp only [all_of_agree hag.month, all_of_agree hag.day, and_self, ↓reduceIte]
  have hdow : p.dow.all (fun (w : Nat) => decide (weekday (dayNumber c.year c.month c.day) + 1 = (w : Int))) = true :=
    all_of_agree fun w hw => by rw [hag.dow w hw, hcw]
  unfold dateOf
  simp only [hyear, y1, y9, and_self, not_true_eq_false, ↓reduceIte, hmdof, hisd, hdow]

theorem hourOf_canon (ty : Ty) (c : Comps) (p : Parts) (hag : Agree ty c p) (hh : 0 ≤ c.hour ∧ c.hour ≤ 23)
    (hcomp : (flagsOf p).hour24 = true ∨ ((flagsOf p).hour12 = true ∧ (flagsOf p).meridian = true)) :
    ((hourOf p : Nat) : Int) = c.hour := by
  have hmer := hag.meridian
  simp only [flagsOf] at hcomp
  cases hph : p.hour with
  | none => simp [hph] at hcomp
  | some v =>
    obtain ⟨is24, h⟩ := v
    cases is24 with
    | true =>
      have := hag.hour24 h hph
      simp [hourOf, hph, this]
    | false =>
      have e := hag.hour12 h hph
      simp only [hph, Option.any_some, Bool.false_eq_true, Bool.not_false, true_and, false_or] at hcomp
      rw [hcomp] at hmer
      simp only [↓reduceIte] at hmer
      unfold hour12Of at e
      simp only [hourOf, hph, hmer]
      by_cases h12 : 12 ≤ c.hour
      · simp only [h12, decide_true, ↓reduceIte]
        split <;> push_cast <;> omega
      · simp only [h12, decide_false, Bool.false_eq_true, ↓reduceIte]
        split <;> push_cast <;> omega

theorem timeOf_canon (ty : Ty) (c : Comps) (p : Parts) (hag : Agree ty c p) (hb : Bounds ty c)
    (ht : hasTime ty = true) (hcomp : complete ty (flagsOf p) = true) (hod : ty = .OD → c.usec = 0) :
    ∃ t : Nat, timeOf p = some t ∧
      (t : Int) = c.hour * 3600000000 + c.minute * 60000000 + c.sec * 1000000 + c.usec := by
  obtain ⟨hhour, hmin, hsec, hus⟩ := complete_time ty _ hcomp ht
  have hh := hourOf_canon ty c p hag hb.hour hhour
  have hm := getD_of_agree hag.minute hmin 0
  have hs := getD_of_agree hag.second hsec 0
  have hu : ((p.usec.getD 0 : Nat) : Int) = c.usec := by
    rcases hus with hus | hus
    · exact getD_of_agree hag.usec hus 0
    · cases h : p.usec with
      | none => simp [hod hus]
      | some v => simp [hag.usec v h]
  have b1 := hb.hour; have b2 := hb.minute; have b3 := hb.sec
  refine ⟨hourOf p * 3600000000 + p.minute.getD 0 * 60000000 + p.second.getD 0 * 1000000 + p.usec.getD 0, ?_, ?_⟩
  · unfold timeOf
    have c1 : hourOf p < 24 := by omega
    have c2 : p.minute.getD 0 < 60 := by omega
    have c3 : p.second.getD 0 < 60 := by omega
    simp only [c1, c2, c3, and_self, ↓reduceIte]
  · push_cast; rw [hh, hm, hs, hu]

end SqlDt.Lemmas
