/-
  Lemmas/FloatFrac: the two places where the crate converts microseconds through `f64`: `NaiveDateTime::fraction`
  when formatting (division by `FRACTION_FACTOR[p]`, then truncation) and `parse_fraction` (multiplication, `round`,
  cast).  Both are exact although the factors 0.1, 0.01, 0.001 are not doubles: the double `c` standing for `1/T`
  lies at or above `1/T`, within relative distance `2^-54`, which is all that `fracB` and `parseB` use of it.
-/
import SqlDt.Spec.Render
import SqlDt.Lemmas.Basic
import SqlDt.Lemmas.FloatExact
namespace SqlDt.Lemmas
open Gen

theorem toU32_round_nat (V : Nat) (h : V ≤ 4294967295) : F64.toU32 (F64.round false V 1) = (V : Int) := by
  obtain ⟨m, e, hy, _, hv⟩ := round_nat_exact false V (by omega)
  rw [hy]
  exact toIntSat_of_val 0 U32_MAX false hv (by simp) (by unfold U32_MAX; simpa using by omega)

/-- `as u32` of a rounding `y` of `x < 2^j`: `y` is within `2^(j−53)` of `x`, and it is not below `q`, a multiple of its
    unit in the last place. -/
theorem toU32_of_rounds {y : F64} {x : ℚ} {q j : Nat} (R : Rounds y false x) (hj : j ≤ 32) (hx : x < 2 ^ (j : Int))
    (hlo : (q : ℚ) ≤ x) (hhi : x + 2 ^ ((j : Int) - 53) < q + 1) : F64.toU32 y = (q : Int) := by
  obtain ⟨m, e, hy, he, hu⟩ := R.fin_of_lt (by have : F64.EMIN = -1074 := rfl; omega) (by omega) hx
  have hX := two_zpow_pos e
  have hX' := half_unit_le he
  rw [abs_le] at hu
  have ht : truncQ ((m : ℚ) * 2 ^ e) = (q : Int) := by
    unfold truncQ
    rw [if_pos (by positivity), Int.floor_eq_iff]
    exact ⟨by exact_mod_cast grid_le (grid_nat q (show e ≤ 0 by omega)) hlo hu.1,
      by push_cast; linarith only [hu.2, hhi, hX']⟩
  have hq : q < 4294967296 := by
    have := two_zpow_le (show (j : Int) ≤ 32 by omega)
    rw [show (2 : ℚ) ^ (32 : Int) = 4294967296 by norm_num] at this
    exact_mod_cast (show (q : ℚ) < 4294967296 by linarith only [hlo, hx, this])
  unfold F64.toU32
  rw [hy, toIntSat_fin, F64.val, F64.sgn, if_neg Bool.false_ne_true, one_mul, ht]
  unfold clamp U32_MAX
  rw [if_neg (by omega), if_neg (by omega)]

/-- `f64::round`, then `as u32`: likewise between the ties `H − 1/2`, again a multiple of the unit, and `H + 1/2`. -/
theorem toU32_roundHalfAway {y : F64} {x : ℚ} {H j : Nat} (R : Rounds y false x) (hj : j ≤ 51)
    (hx : x < 2 ^ (j : Int)) (hlo : (H : ℚ) - 1 / 2 ≤ x) (hhi : x + 2 ^ ((j : Int) - 53) < H + 1 / 2)
    (hH : H ≤ 4294967295) : F64.toU32 (F64.roundHalfAway y) = (H : Int) := by
  obtain ⟨m, e, hy, he, hu⟩ := R.fin_of_lt (by have : F64.EMIN = -1074 := rfl; omega) (by omega) hx
  have hX := two_zpow_pos e
  have hX' := half_unit_le he
  rw [abs_le] at hu
  rw [hy, roundHalfAway_fin false m (by omega)]
  have hq : roundHalfAwayQ ((m : ℚ) * 2 ^ e) = (H : Int) := by
    unfold roundHalfAwayQ
    rw [if_pos (by positivity), Int.floor_eq_iff]
    constructor
    · rcases Nat.eq_zero_or_pos H with rfl | hH
      · have : (0 : ℚ) ≤ (m : ℚ) * 2 ^ e := by positivity
        push_cast; linarith only [this]
      · -- `H − 1/2 = G·2^e` with `G = (2H − 1)·2^(−e−1)`
        obtain ⟨K, hK⟩ : ∃ K, 2 * H = K + 1 := ⟨2 * H - 1, by omega⟩
        have hKq : ((2 * H : Nat) : ℚ) = ((K + 1 : Nat) : ℚ) := by rw [hK]
        have hg := grid_nat K (show e + 1 ≤ 0 by omega)
        rw [zpow_add_one₀ (by norm_num), ← mul_assoc, ← eq_div_iff (by norm_num)] at hg
        have := grid_le hg (x := x) (by push_cast at hKq; linarith only [hKq, hlo]) hu.1
        push_cast at hKq ⊢; linarith only [this, hKq]
    · push_cast; linarith only [hu.2, hhi, hX']
  rw [hq, Int.toNat_natCast]
  exact toU32_round_nat H hH

/-- Truncation after rounding does not cross an integer: `x = num/den < 2^j` with `den ≤ 2^(52−j)` lies at least
    `1/den ≥ 2^(j−52)` below the next integer. -/
theorem toU32_round_floor (num den j : Nat) (hd : 0 < den) (hj : j ≤ 32) (hv : num < 2 ^ j * den)
    (hden : den ≤ 2 ^ (52 - j)) : F64.toU32 (F64.round false num den) = ((num / den : Nat) : Int) := by
  have hD : (0 : ℚ) < den := by exact_mod_cast hd
  have hx : (num : ℚ) / den < 2 ^ (j : Int) := by
    rw [div_lt_iff₀ hD, zpow_natCast]; exact_mod_cast hv
  have h1 : ((num / den : Nat) : ℚ) ≤ (num : ℚ) / den := by
    rw [le_div_iff₀ hD]; exact_mod_cast Nat.div_mul_le_self num den
  have h2 : (num : ℚ) / den + 1 / den ≤ (num / den : Nat) + 1 := by
    rw [← add_div, div_le_iff₀ hD]
    exact_mod_cast (show num + 1 ≤ (num / den + 1) * den by rw [Nat.add_mul, Nat.one_mul]; exact Nat.lt_div_mul_add hd)
  have h3 : (2 : ℚ) ^ ((j : Int) - 53) < 1 / den := by
    have a1 : (den : ℚ) ≤ ((2 ^ (52 - j) : Nat) : ℚ) := by exact_mod_cast hden
    rw [Nat.cast_pow, Nat.cast_ofNat, ← zpow_natCast] at a1
    rw [lt_div_iff₀ hD]
    calc (2 : ℚ) ^ ((j : Int) - 53) * den ≤ 2 ^ ((j : Int) - 53) * 2 ^ ((52 - j : Nat) : Int) :=
          mul_le_mul_of_nonneg_left a1 (two_zpow_pos _).le
      _ = 2 ^ (-1 : Int) := by rw [← zpow_add₀ (by norm_num)]; congr 1; omega
      _ < 1 := by norm_num
  exact toU32_of_rounds (round_rounds false num den hd) hj hx h1 (by linarith only [h2, h3])

/-- `(u as f64 / T as f64) as u32 = ⌊u / T⌋` -/
theorem fracA (u T j : Nat) (hj : j ≤ 32) (hu : u < 2 ^ j) (hT : 0 < T) (hT' : T ≤ 2 ^ (52 - j)) :
    F64.toU32 (F64.div (F64.ofInt (u : Int)) (F64.ofInt (T : Int))) = ((u / T : Nat) : Int) := by
  have h32 : 2 ^ j ≤ 2 ^ 32 := Nat.pow_le_pow_right (by decide) hj
  have h52 : 2 ^ (52 - j) ≤ 2 ^ 52 := Nat.pow_le_pow_right (by decide) (by omega)
  obtain ⟨m1, e1, hc, _, v1⟩ := exists_canon_nat u (by omega)
  rw [div_ofInt (u : Int) (T : Int) hc v1 (by omega) (by omega), decide_eq_false (by omega : ¬ (u : Int) < 0)]
  exact toU32_round_floor u T j hT hj (Nat.lt_of_lt_of_le hu (Nat.le_mul_of_pos_right _ hT)) hT'

theorem inv_near_one {r : ℚ} (h1 : 1 ≤ r) (h2 : (r - 1) * 2 ^ 54 ≤ 1) : |1 / r - 1| * 2 ^ 54 < 1 := by
  have hr : (0 : ℚ) < r := by linarith only [h1]
  rw [abs_of_nonpos (by rw [sub_nonpos, div_le_one hr]; exact h1), neg_sub, one_sub_div hr.ne', div_mul_eq_mul_div,
    div_lt_one hr]
  rcases h1.eq_or_lt with rfl | h1
  · norm_num
  · linarith only [h2, h1]

/-- `(u as f64 / c) as u32 = u·T` for a double `c = mc·2^ec` with `1 ≤ c·T ≤ 1 + 2^-54`: the quotient is within
    relative distance `2^-54` of the integer `u·T`, which absorbs it (`round_near_nat`; that needs `H0`: `u·T` is not a
    power of two). -/
theorem fracB (u mc T : Nat) (ec : Int) (hu : u ≤ 2 ^ 53) (hN : u * T ≤ 4294967295) (H0 : ∀ w : Nat, w * T ≠ 2 ^ 52)
    (hc1 : 1 ≤ (mc : ℚ) * 2 ^ ec * T) (hc2 : ((mc : ℚ) * 2 ^ ec * T - 1) * 2 ^ 54 ≤ 1) :
    F64.toU32 (F64.div (F64.ofInt (u : Int)) (F64.fin false mc ec)) = ((u * T : Nat) : Int) := by
  obtain ⟨m1, e1, g1, _, v1⟩ := ofInt_natCast u hu
  have hmc : mc ≠ 0 := by
    rintro rfl
    rw [Nat.cast_zero, zero_mul, zero_mul] at hc1
    exact absurd hc1 (by norm_num)
  have hmc' : 0 < mc := by omega
  rw [g1, div_fin (a := u * 2 ^ (-ec).toNat) (b := mc * 2 ^ ec.toNat) _ _ (by positivity) hmc
    (by rw [scaled_cast, v1, div_div])]
  rcases Nat.eq_zero_or_pos (u * T) with h0 | hN0
  · obtain rfl : u = 0 := by
      rcases Nat.mul_eq_zero.mp h0 with h | rfl
      · exact h
      · rw [Nat.cast_zero, mul_zero] at hc1; exact absurd hc1 (by norm_num)
    rw [Nat.zero_mul, Nat.zero_mul, round_zero]; rfl
  rw [round_near_nat _ (by positivity) hN0 (by omega) (fun j => by rw [Nat.mul_right_comm]; exact H0 _) (N := u * T)]
  · exact toU32_round_nat _ hN
  · -- `x − N = N·(1/(c·T) − 1)`
    have hNq : (0 : ℚ) < ((u * T : Nat) : ℚ) := by exact_mod_cast hN0
    have hT0 : (T : ℚ) ≠ 0 := by rintro h; rw [h, mul_zero] at hc1; exact absurd hc1 (by norm_num)
    have hx : ((u * 2 ^ (-ec).toNat : Nat) : ℚ) / ((mc * 2 ^ ec.toNat : Nat) : ℚ) - ((u * T : Nat) : ℚ) =
        ((u * T : Nat) : ℚ) * (1 / ((mc : ℚ) * 2 ^ ec * T) - 1) := by
      rw [scaled_cast, div_div, mul_sub, mul_one, Nat.cast_mul, mul_one_div, mul_div_mul_right _ _ hT0]
    rw [hx, abs_mul, abs_of_pos hNq, mul_assoc]
    exact mul_lt_of_lt_one_right hNq (inv_near_one hc1 hc2)

/-- `round(a as f64 * b as f64) as u32` for an exact product. -/
theorem parseA (a b : Nat) (hV : a * b ≤ 4294967295) (ha : a ≤ 2 ^ 53) (hb : b ≤ 2 ^ 53) :
    F64.toU32 (F64.roundHalfAway (F64.mul (F64.ofInt (a : Int)) (F64.ofInt (b : Int)))) = ((a * b : Nat) : Int) := by
  obtain ⟨m1, e1, g1, _, v1⟩ := ofInt_natCast a ha
  obtain ⟨m2, e2, g2, _, v2⟩ := ofInt_natCast b hb
  obtain ⟨m, e, hc, _, hv⟩ := exists_canon_nat (a * b) (by omega)
  rw [g1, g2, mul_fin (a := a * b) (b := 1) _ _ (by decide) (by rw [v1, v2]; simp),
    round_nat _ hc hv, roundHalfAway_of_val _ hc hv]
  exact toIntSat_of_val 0 U32_MAX false hv (Int.natCast_nonneg _) (by unfold U32_MAX; simpa using by omega)

/-- `round(int as f64 * c) as u32` is `int/T` rounded half up, for a double `c = mc·2^ec` with
    `1 ≤ c·T ≤ 1 + 2^-54`.  With `H` the half-up quotient, `H − 1/2 ≤ int/T ≤ H + 1/2 − 1/(2T)`, and the product
    `x = int·c` lies between `int/T` and `int/T + 2^-34` (`c ≥ 1/T` is needed: ties of `int/T` must round up).
    `2^20` and `2^30` are what the caller has to spare (`int/T < 10^6`, `T ≤ 10^3`): they put `x` below `2^21`
    (`j := 21`, rounding error `2^-32`) and keep `2^-34 + 2^-32` below `1/(2T)`. -/
theorem parseB (int mc T : Nat) (ec : Int) (hT : 0 < T) (hT' : T ≤ 2 ^ 30) (hint : int < 2 ^ 20 * T)
    (hc1 : 1 ≤ (mc : ℚ) * 2 ^ ec * T) (hc2 : ((mc : ℚ) * 2 ^ ec * T - 1) * 2 ^ 54 ≤ 1) :
    F64.toU32 (F64.roundHalfAway (F64.mul (F64.ofInt (int : Int)) (F64.fin false mc ec))) =
      (((2 * int + T) / (2 * T) : Nat) : Int) := by
  have h50 : 2 ^ 20 * T ≤ 2 ^ 20 * 2 ^ 30 := Nat.mul_le_mul_left _ hT'
  obtain ⟨m1, e1, gi, _, v1⟩ := ofInt_natCast int (by omega)
  have hTq : (0 : ℚ) < T := by exact_mod_cast hT
  -- `a = int/T < 2^20`, `x = a·(c·T)`
  obtain ⟨a, ha⟩ : ∃ a : ℚ, a = (int : ℚ) / T := ⟨_, rfl⟩
  have ha0 : 0 ≤ a := by rw [ha]; positivity
  have ha20 : a < 2 ^ 20 := by rw [ha, div_lt_iff₀ hTq]; exact_mod_cast hint
  have hx : (m1 : ℚ) * 2 ^ e1 * ((mc : ℚ) * 2 ^ ec) = a * ((mc : ℚ) * 2 ^ ec * T) := by
    rw [v1, ha]; field_simp
  have hH1 : ((2 * T * ((2 * int + T) / (2 * T)) : Nat) : ℚ) ≤ ((2 * int + T : Nat) : ℚ) := by
    exact_mod_cast Nat.mul_div_le _ _
  have hH2 : ((2 * int + T + 1 : Nat) : ℚ) ≤ ((2 * T * ((2 * int + T) / (2 * T) + 1) : Nat) : ℚ) := by
    exact_mod_cast Nat.lt_mul_div_succ _ (by omega)
  have hHle : (2 * int + T) / (2 * T) ≤ 2 ^ 20 := by
    rw [Nat.div_le_iff_le_mul_add_pred (by omega)]; omega
  generalize (2 * int + T) / (2 * T) = H at *
  have hlo : (H : ℚ) - 1 / 2 ≤ a := by
    rw [ha, le_div_iff₀ hTq]; push_cast at hH1; linarith only [hH1]
  have hhi : a + 1 / (2 * T) ≤ H + 1 / 2 := by
    have : (1 : ℚ) / (2 * T) * T = 1 / 2 := by field_simp
    rw [ha, ← le_sub_iff_add_le, div_le_iff₀ hTq, sub_mul, this]; push_cast at hH2; linarith only [hH2]
  have hT30 : (1 : ℚ) / 2147483648 ≤ 1 / (2 * T) := by
    have : (T : ℚ) ≤ 2 ^ 30 := by exact_mod_cast hT'
    rw [div_le_div_iff₀ (by norm_num) (by positivity)]; linarith only [this]
  have R : Rounds _ false _ := mul_rounds false false m1 mc e1 ec
  rw [← gi, hx] at R
  generalize (mc : ℚ) * 2 ^ ec * T = r at hc1 hc2 R
  have hr : a * r ≤ a + 1 / 17179869184 := by
    have := mul_le_mul_of_nonneg_left (show r - 1 ≤ 1 / 2 ^ 54 by rw [le_div_iff₀ (by norm_num)]; exact hc2) ha0
    nlinarith only [this, ha20]
  have hr' : a ≤ a * r := le_mul_of_one_le_right ha0 hc1
  exact toU32_roundHalfAway (j := 21) R (by decide) (by norm_num; linarith only [hr, ha20])
    (by linarith only [hlo, hr']) (by norm_num; linarith only [hr, hhi, hT30]) (by omega)

/-- The powers of ten `10^6 … 10^0`, then the doubles that stand for 0.1, 0.01, 0.001. -/
theorem factor_tbl :
    FRACTION_FACTOR_BITS.map F64.ofBits =
      (List.range 7).map (fun k => F64.ofInt ((10 ^ (6 - k) : Nat) : Int)) ++
        [F64.fin false 7205759403792794 (-56), F64.fin false 5764607523034235 (-59),
         F64.fin false 4611686018427388 (-62)] := by decide +kernel

theorem factor_pow (p : Nat) (hp : p ≤ 6) :
    (FRACTION_FACTOR_BITS.map F64.ofBits)[p]? = some (F64.ofInt ((10 ^ (6 - p) : Nat) : Int)) := by
  rw [factor_tbl, List.getElem?_append_left (by simp; omega), List.getElem?_map, List.getElem?_range (by omega)]
  rfl

/-- The entry for `1/T`, `T = 10^(p-6)`, is a double `c` with `1 ≤ c·T ≤ 1 + 2^-54` (for 0.1 the upper bound is attained);
    and no multiple of `T` is `2^52`. -/
theorem factor_inv (p : Nat) (hp : 7 ≤ p) (hp' : p ≤ 9) :
    ∃ (mc : Nat) (ec : Int), (FRACTION_FACTOR_BITS.map F64.ofBits)[p]? = some (F64.fin false mc ec) ∧
      1 ≤ (mc : ℚ) * 2 ^ ec * (10 ^ (p - 6) : Nat) ∧ ((mc : ℚ) * 2 ^ ec * (10 ^ (p - 6) : Nat) - 1) * 2 ^ 54 ≤ 1 ∧
      ∀ w : Nat, w * 10 ^ (p - 6) ≠ 2 ^ 52 := by
  rw [factor_tbl]
  obtain rfl | rfl | rfl : p = 7 ∨ p = 8 ∨ p = 9 := by omega
  · exact ⟨_, _, rfl, by norm_num, by norm_num, fun w => by omega⟩
  · exact ⟨_, _, rfl, by norm_num, by norm_num, fun w => by omega⟩
  · exact ⟨_, _, rfl, by norm_num, by norm_num, fun w => by omega⟩

/-- `NaiveDateTime::fraction(p)` for every microsecond value and every precision 0..9:
    `⌊usec / 10^(6−p)⌋` for p ≤ 6 and `usec · 10^(p−6)` for p > 6 (the constants 0.1, 0.01, 0.001 are not exact
    doubles, yet the quotient rounds to the exact integer). -/
theorem fraction_eq (dt : NDT) (p : Nat) (hu : 0 ≤ dt.usec ∧ dt.usec ≤ 999999) (hp : p ≤ 9) :
    dt.fraction p = .ok (Spec.fractionOf dt.usec p) := by
  have hlen : (p : Int).toNat < FRACTION_FACTOR_BITS.length := by
    rw [show FRACTION_FACTOR_BITS.length = 10 from rfl]; omega
  unfold NDT.fraction
  rw [idx_eq_ok (by omega) hlen]
  show Except.ok _ = _
  congr 1
  have hb : (FRACTION_FACTOR_BITS.map F64.ofBits)[p]? = some (F64.ofBits FRACTION_FACTOR_BITS[(p : Int).toNat]) := by
    rw [List.getElem?_map, List.getElem?_eq_getElem (by simpa using hlen)]; rfl
  obtain ⟨u, hu'⟩ : ∃ u : Nat, dt.usec = (u : Int) := ⟨dt.usec.toNat, by omega⟩
  rw [hu'] at hu ⊢
  unfold Spec.fractionOf
  by_cases h : p ≤ 6
  · rw [factor_pow p h, Option.some.injEq] at hb
    have : 10 ^ (6 - p) ≤ 10 ^ 6 := Nat.pow_le_pow_right (by decide) (by omega)
    rw [← hb, fracA u _ 20 (by decide) (by omega) (by positivity) (by omega), if_pos h]; simp
  · obtain ⟨mc, ec, hget, hc1, hc2, H0⟩ := factor_inv p (by omega) hp
    rw [hget, Option.some.injEq] at hb
    have : 10 ^ (p - 6) ≤ 10 ^ 3 := Nat.pow_le_pow_right (by decide) (by omega)
    have : u * 10 ^ (p - 6) ≤ 999999 * 10 ^ 3 := Nat.mul_le_mul (by omega) this
    rw [← hb, fracB u mc _ ec (by omega) (by omega) H0 hc1 hc2, if_neg h]; simp

/-- `parse_fraction` on `len` digits with value `int` (`int < 10^len`, `len ≤ 9`):
    `int · 10^(6−len)` for len ≤ 6, and `⌊(int · 10^6 + 10^len / 2) / 10^len⌋` (half-up) for len > 6. -/
theorem parseFraction_value (int : Nat) (len : Nat) (hl : len ≤ 9) (hi : int < 10 ^ len) :
    (FRACTION_FACTOR_BITS[len]?).map (fun bits =>
      F64.toU32 (F64.roundHalfAway (F64.mul (F64.ofInt int) (F64.ofBits bits)))) =
    some (if len ≤ 6 then (int * 10 ^ (6 - len) : Nat) else ((int * 1000000 + 10 ^ len / 2) / 10 ^ len : Nat)) := by
  have hmap : (FRACTION_FACTOR_BITS[len]?).map (fun bits =>
      F64.toU32 (F64.roundHalfAway (F64.mul (F64.ofInt int) (F64.ofBits bits)))) =
      ((FRACTION_FACTOR_BITS.map F64.ofBits)[len]?).map (fun c =>
        F64.toU32 (F64.roundHalfAway (F64.mul (F64.ofInt int) c))) := by
    rw [List.getElem?_map, Option.map_map]; rfl
  rw [hmap]
  by_cases h : len ≤ 6
  · have h1 : int * 10 ^ (6 - len) < 10 ^ len * 10 ^ (6 - len) := Nat.mul_lt_mul_of_pos_right hi (by positivity)
    rw [← Nat.pow_add, show len + (6 - len) = 6 by omega] at h1
    have h2 : 10 ^ (6 - len) ≤ 10 ^ 6 := Nat.pow_le_pow_right (by decide) (by omega)
    have h3 : 10 ^ len ≤ 10 ^ 6 := Nat.pow_le_pow_right (by decide) h
    rw [factor_pow len h, Option.map_some, if_pos h, parseA int _ (by omega) (by omega) (by omega)]; rfl
  · obtain ⟨mc, ec, hget, hc1, hc2, _⟩ := factor_inv len (by omega) hl
    have hT : 10 ^ len = 500000 * (2 * 10 ^ (len - 6)) := by
      rw [show len = 6 + (len - 6) by omega, Nat.pow_add, show 6 + (len - 6) - 6 = len - 6 by omega]; omega
    have hT3 : 10 ^ (len - 6) ≤ 10 ^ 3 := Nat.pow_le_pow_right (by decide) (by omega)
    rw [hget, Option.map_some, if_neg h,
      parseB int mc _ ec (by positivity) (by omega) (by omega) hc1 hc2, hT]
    congr 2
    generalize 10 ^ (len - 6) = T
    rw [show 500000 * (2 * T) / 2 = 500000 * T by omega,
      show int * 1000000 + 500000 * T = 500000 * (2 * int + T) by omega, Nat.mul_div_mul_left _ _ (by decide)]

end SqlDt.Lemmas
