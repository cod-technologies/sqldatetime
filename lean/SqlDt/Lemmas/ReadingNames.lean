/-
  Lemmas/ReadingNames: month names, weekday names and AM/PM written in any letter case, read by the crate's
  `parse_month_name`, `parse_week_day_name`, `parse_ampm`.  The case-insensitive prefix test is the exact one on the
  lower-cased bytes (`startsWithCI_lower`).  What is used of the two lists of names is stated once (`GoodNames`, checked
  by evaluation for each list); `findName` is followed on any such list.
-/
import SqlDt.Lemmas.ReadingText
import SqlDt.Lemmas.Render
namespace SqlDt.Lemmas
open SqlDt Gen Spec Parser

theorem toLowerB_eq (c : Nat) : toLowerB c = if 65 ≤ c ∧ c ≤ 90 then c + 32 else c := by
  unfold toLowerB isUpperB; by_cases h : 65 ≤ c ∧ c ≤ 90 <;> simp [h]

theorem upperB_eq (c : Nat) : upperB c = if 97 ≤ c ∧ c ≤ 122 then c - 32 else c := by
  unfold upperB isLowerB; by_cases h : 97 ≤ c ∧ c ≤ 122 <;> simp [h]

theorem toLowerB_idem (c : Nat) : toLowerB (toLowerB c) = toLowerB c := by
  simp only [toLowerB_eq]
  repeat' split
  all_goals omega

theorem toLowerB_upperB (c : Nat) : toLowerB (upperB c) = toLowerB c := by
  simp only [toLowerB_eq, upperB_eq]
  repeat' split
  all_goals omega

theorem toLowerB_of_lower (c : Nat) (h : isLowerB c = true) : toLowerB c = c := by
  simp only [isLowerB, Bool.and_eq_true, decide_eq_true_eq] at h
  rw [toLowerB_eq, if_neg (by omega)]

theorem lower_append (a b : Bytes) : lower (a ++ b) = lower a ++ lower b := by simp [lower]
theorem lower_length (a : Bytes) : (lower a).length = a.length := by simp [lower]
theorem lower_idem (a : Bytes) : lower (lower a) = lower a := by
  simp [lower, toLowerB_idem]

theorem lower_of_lower (a : Bytes) (h : ∀ c ∈ a, isLowerB c = true) : lower a = a := by
  unfold lower
  conv => rhs; rw [← List.map_id a]
  exact List.map_congr_left (fun c hc => toLowerB_of_lower c (h c hc))

theorem lower_capital (a : Bytes) : lower (capital a) = lower a := by
  cases a with
  | nil => rfl
  | cons c cs => simp [capital, lower, toLowerB_upperB, toLowerB_idem]

theorem lower_recase : ∀ (mask : List Bool) (a : Bytes), lower (recase mask a) = lower a
  | _, [] => by cases ‹List Bool› <;> rfl
  | [], c :: cs => rfl
  | b :: bs, c :: cs => by
    have ih := lower_recase bs cs
    simp only [lower, List.map_cons, recase] at ih ⊢
    cases b <;> simp [toLowerB_upperB, ih]

theorem recase_length : ∀ (mask : List Bool) (a : Bytes), (recase mask a).length = a.length
  | _, [] => by cases ‹List Bool› <;> rfl
  | [], c :: cs => rfl
  | b :: bs, c :: cs => by simp [recase, recase_length bs cs]

theorem startsWithCI_lower : ∀ (s n : Bytes), startsWithCI s n = startsWith (lower s) (lower n)
  | _, [] => by simp [startsWithCI, startsWith, lower]
  | [], b :: n => by simp [startsWithCI, startsWith, lower]
  | a :: s, b :: n => by
    have ih := startsWithCI_lower s n
    simp only [lower, List.map_cons, startsWithCI, startsWith, eqIgnoreCaseB] at ih ⊢
    rw [ih]

/-- the two byte strings differ at a position where both are defined -/
def differ : Bytes → Bytes → Bool
  | a :: as, b :: bs => a != b || differ as bs
  | _, _ => false

theorem startsWith_differ : ∀ (a n r : Bytes), differ a n = true → startsWith (a ++ r) n = false
  | [], _, _, h => by simp [differ] at h
  | _ :: _, [], _, h => by simp [differ] at h
  | a :: as, b :: bs, r, h => by
    simp only [differ, Bool.or_eq_true, bne_iff_ne, ne_eq] at h
    simp only [List.cons_append, startsWith]
    by_cases e : a = b
    · subst e
      have := startsWith_differ as bs r (by simpa using h)
      simp [this]
    · simp [e]

theorem startsWith_same : ∀ (a r m : Bytes), startsWith (a ++ r) (a ++ m) = startsWith r m
  | [], _, _ => rfl
  | a :: as, r, m => by simp [startsWith, startsWith_same as r m]

theorem startsWith_nil (r : Bytes) : startsWith r [] = true := by cases r <;> rfl

theorem differ_append : ∀ (a b a' b' : Bytes), differ a b = true → differ (a ++ a') (b ++ b') = true
  | [], _, _, _, h => by simp [differ] at h
  | _ :: _, [], _, _, h => by simp [differ] at h
  | a :: as, b :: bs, a', b', h => by
    simp only [List.cons_append, differ, Bool.or_eq_true] at h ⊢
    exact h.imp id (differ_append as bs a' b')

theorem differ_comm : ∀ (a b : Bytes), differ a b = differ b a
  | [], [] => rfl
  | [], _ :: _ => rfl
  | _ :: _, [] => rfl
  | a :: as, b :: bs => by simp only [differ, differ_comm as bs, bne_comm]

theorem startsWithCI_recase (mask : List Bool) (a rest n : Bytes) (h : lower a = lower n) :
    startsWithCI (recase mask a ++ rest) n = true := by
  rw [startsWithCI_lower, lower_append, lower_recase, h]
  simpa [startsWith_nil] using startsWith_same (lower n) (lower rest) []

theorem startsWithCI_recase_differ (mask : List Bool) (a rest n : Bytes) (h : differ (lower a) (lower n) = true) :
    startsWithCI (recase mask a ++ rest) n = false := by
  rw [startsWithCI_lower, lower_append, lower_recase]
  exact startsWith_differ _ _ _ h

/-- What the readers of names use of a list of names: lower-case letters only, at least three of them, and any two names
    differ within their first three letters. -/
def GoodNames (names : List Bytes) : Prop :=
  (∀ nm ∈ names, 3 ≤ nm.length ∧ ∀ c ∈ nm, isLowerB c = true) ∧
  names.Pairwise (fun a b => differ (a.take 3) (b.take 3) = true)

instance (names : List Bytes) : Decidable (GoodNames names) := by unfold GoodNames; infer_instance

theorem monthNames_good : GoodNames monthNames := by decide
theorem dayNames_good : GoodNames dayNames := by decide

abbrev short (abbr : Bool) (nm : Bytes) : Bytes := if abbr then nm.take 3 else nm

theorem short_eq (abbr : Bool) (nm : Bytes) : short abbr nm = nm.take 3 ++ (if abbr then [] else nm.drop 3) := by
  cases abbr <;> simp [short]

theorem lower_styled (st : NameStyle) (nm : Bytes) : lower (styled st nm) = lower (short (isAbbrStyle st) nm) := by
  have hu : ∀ a : Bytes, lower (upper a) = lower a := fun a => by simp [lower, upper, toLowerB_upperB]
  cases st <;> simp only [styled, isAbbrStyle, short, lower_capital, lower_idem, hu] <;> rfl

theorem short_lower {names : List Bytes} (hg : GoodNames names) {nm : Bytes} (h : nm ∈ names) (abbr : Bool) :
    lower (short abbr nm) = short abbr nm :=
  lower_of_lower _ (fun c hc => (hg.1 nm h).2 c (by cases abbr <;> [exact hc; exact List.mem_of_mem_take hc]))

theorem short_differ {a b : Bytes} (h : differ (a.take 3) (b.take 3) = true) (x y : Bool) :
    differ (short x a) (short y b) = true := by
  rw [short_eq, short_eq]; exact differ_append _ _ _ _ h

theorem getD_mem (names : List Bytes) (i : Nat) (hi : i < names.length) : names.getD i [] ∈ names := by
  rw [List.getD_eq_getElem?_getD, List.getElem?_eq_getElem hi]; exact List.getElem_mem hi

theorem findName_names (st : NameStyle) (mask : List Bool) (rest : Bytes) : ∀ (names : List Bytes) (i k : Nat),
    GoodNames names → i < names.length →
    findName (recase mask (short (isAbbrStyle st) (names.getD i [])) ++ rest) (names.map (styled st)) k =
      some (k + i, (short (isAbbrStyle st) (names.getD i [])).length)
  | [], _, _, _, hi => by simp at hi
  | a :: l, 0, k, hg, _ => by
    have := startsWithCI_recase mask (short (isAbbrStyle st) a) rest (styled st a) (lower_styled st a).symm
    have hl : (styled st a).length = (short (isAbbrStyle st) a).length := by
      rw [← lower_length, lower_styled, lower_length]
    simp [findName, this, hl]
  | a :: l, i + 1, k, hg, hi => by
    have hi' : i < l.length := by simpa using hi
    have hmem := getD_mem l i hi'
    have hgl : GoodNames l := ⟨fun nm h => hg.1 nm (List.mem_cons_of_mem _ h), (List.pairwise_cons.1 hg.2).2⟩
    have hd := (List.pairwise_cons.1 hg.2).1 _ hmem
    have : startsWithCI (recase mask (short (isAbbrStyle st) (l.getD i [])) ++ rest) (styled st a) = false := by
      apply startsWithCI_recase_differ
      rw [lower_styled, short_lower hg (List.mem_cons_of_mem _ hmem), short_lower hg (List.mem_cons_self ..)]
      exact short_differ (by rw [differ_comm]; exact hd) _ _
    simp only [List.getD_cons_succ, List.map_cons, findName, this, Bool.false_eq_true, ↓reduceIte]
    rw [findName_names st mask rest l i (k + 1) hgl hi']
    simp; omega

theorem findName_none (s : Bytes) : ∀ (row : List Bytes) (k : Nat),
    (∀ n ∈ row, startsWithCI s n = false) → findName s row k = none
  | [], _, _ => rfl
  | n :: ns, k, h => by
    simp only [findName, h n (List.mem_cons_self ..), Bool.false_eq_true, ↓reduceIte]
    exact findName_none s ns (k + 1) (fun m hm => h m (List.mem_cons_of_mem _ hm))

/-- An abbreviation that is not followed by the rest of its own name matches no full name. -/
theorem findName_names_miss (st : NameStyle) (hst : isAbbrStyle st = false) (mask : List Bool) (rest : Bytes)
    (names : List Bytes) (hg : GoodNames names) (nm : Bytes) (hnm : nm ∈ names)
    (hlong : startsWithCI rest (nm.drop 3) = false) (k : Nat) :
    findName (recase mask (nm.take 3) ++ rest) (names.map (styled st)) k = none := by
  apply findName_none
  intro n hn
  obtain ⟨a, ha, rfl⟩ := List.mem_map.1 hn
  rw [startsWithCI_lower, lower_append, lower_recase, lower_styled, hst, short_lower hg ha false,
    show nm.take 3 = short true nm from rfl, short_lower hg hnm true]
  by_cases e : nm = a
  · subst e
    show startsWith (nm.take 3 ++ lower rest) nm = false
    conv => lhs; arg 2; rw [← List.take_append_drop 3 nm]
    rw [startsWith_same, ← lower_of_lower (nm.drop 3) (fun c hc => (hg.1 nm hnm).2 c (List.mem_of_mem_drop hc)),
      ← startsWithCI_lower]
    exact hlong
  · have : Std.Symm (fun a b : Bytes => differ (a.take 3) (b.take 3) = true) :=
      ⟨fun a b h => by rw [differ_comm]; exact h⟩
    exact startsWith_differ _ _ _ (short_differ (hg.2.forall hnm ha e) true false)

theorem drop_recase (mask : List Bool) (a rest : Bytes) : (recase mask a ++ rest).drop a.length = rest := by
  rw [← recase_length mask a, List.drop_left]

def headLower : Bytes → Bool
  | c :: _ => isLowerB c
  | [] => false

theorem short_head {names : List Bytes} (hg : GoodNames names) {nm : Bytes} (h : nm ∈ names) (abbr : Bool) :
    headLower (short abbr nm) = true := by
  obtain ⟨h3, hl⟩ := hg.1 nm h
  cases nm with
  | nil => simp at h3
  | cons c cs => cases abbr <;> exact hl c (by simp)

theorem month_base_head (k : Nat) (hk : 1 ≤ k ∧ k ≤ 12) (abbr : Bool) :
    headLower (if abbr then (monthNames.getD (k - 1) []).take 3 else monthNames.getD (k - 1) []) = true :=
  short_head monthNames_good (getD_mem _ _ (by have : monthNames.length = 12 := rfl; omega)) abbr

theorem day_base_head (k : Nat) (hk : 1 ≤ k ∧ k ≤ 7) (abbr : Bool) :
    headLower (if abbr then (dayNames.getD (k - 1) []).take 3 else dayNames.getD (k - 1) []) = true :=
  short_head dayNames_good (getD_mem _ _ (by have : dayNames.length = 7 := rfl; omega)) abbr

theorem letter_facts (c : Nat) (b : Bool) (h : isLowerB c = true) :
    let x := if b then upperB c else c
    isWhitespaceB x = false ∧ isDigitB x = false ∧ x ≠ B '+' ∧ x ≠ B '-' := by
  have h' := h
  simp only [isLowerB, Bool.and_eq_true, decide_eq_true_eq] at h'
  have e1 : B '+' = 43 := rfl
  have e2 : B '-' = 45 := rfl
  cases b
  · simp only [Bool.false_eq_true, ↓reduceIte, e1, e2]
    refine ⟨?_, ?_, by omega, by omega⟩
    · simp [isWhitespaceB]; omega
    · simp [isDigitB]; omega
  · simp only [↓reduceIte, upperB, h, e1, e2]
    refine ⟨?_, ?_, by omega, by omega⟩
    · simp [isWhitespaceB]; omega
    · simp [isDigitB]; omega

theorem recase_head (mask : List Bool) (a : Bytes) (h : headLower a = true) :
    ∃ (b : Bool) (c : Nat) (r : Bytes), recase mask a = (if b then upperB c else c) :: r ∧ isLowerB c = true := by
  cases a with
  | nil => simp [headLower] at h
  | cons c cs =>
    cases mask with
    | nil => exact ⟨false, c, cs, by simp [recase], h⟩
    | cons b bs => exact ⟨b, c, _, rfl, h⟩

theorem eatWs_name (mask : List Bool) (a rest : Bytes) (h : headLower a = true) :
    eatWhitespaces (recase mask a ++ rest) = recase mask a ++ rest := by
  obtain ⟨b, c, r, e, hc⟩ := recase_head mask a h
  rw [e]
  exact eatWs_nonws _ _ (letter_facts c b hc).1

/-- a name is not a number: `parse_number` fails on it (so that `MM` falls back to month names) -/
theorem parseNumber_name (mask : List Bool) (a rest : Bytes) (k : Nat) (h : headLower a = true) :
    parseNumber (recase mask a ++ rest) k = .error .ParseError := by
  obtain ⟨b, c, r, e, hc⟩ := recase_head mask a h
  obtain ⟨_, h2, h3, h4⟩ := letter_facts c b hc
  rw [e]
  simp only [List.cons_append, parseNumber, h3, h4, ↓reduceIte]
  have : eatDigits ((if b = true then upperB c else c) :: (r ++ rest)) k = ([], (if b = true then upperB c else c) :: (r ++ rest)) := by
    unfold eatDigits
    cases k with
    | zero => simp
    | succ k => simp [List.take_succ_cons, h2]
  simp only [this]
  rfl

theorem name_nonempty (mask : List Bool) (a rest : Bytes) (h : headLower a = true) :
    (recase mask a ++ rest).isEmpty = false := by
  obtain ⟨b, c, r, e, _⟩ := recase_head mask a h
  rw [e]; rfl

theorem startsWithCI_append_spaces : ∀ (a m : Bytes) (tb : Nat), (∀ c ∈ m, toLowerB c ≠ 32) →
    startsWithCI (a ++ spaces tb) m = startsWithCI a m
  | _, [], _, _ => by simp [startsWithCI]
  | [], c :: m, tb, h => by
    have hc := h c (by simp)
    cases tb with
    | zero => simp [spaces]
    | succ tb =>
      rw [List.nil_append, spaces_succ]
      simp only [startsWithCI, eqIgnoreCaseB]
      have : toLowerB 32 = 32 := by decide
      rw [this]
      have : (32 == toLowerB c) = false := by
        simp only [beq_eq_false_iff_ne, ne_eq]; exact fun e => hc e.symm
      simp [this]
  | a :: as, c :: m, tb, h => by
    simp only [List.cons_append, startsWithCI]
    rw [startsWithCI_append_spaces as m tb (fun x hx => h x (by simp [hx]))]

theorem month_tail_lower (i : Nat) (hi : i < 12) : ∀ c ∈ (monthNames.getD i []).drop 3, isLowerB c = true :=
  fun c hc => (monthNames_good.1 _ (getD_mem monthNames i hi)).2 c (List.mem_of_mem_drop hc)

theorem month_tail_noblank (i : Nat) (hi : i < 12) : ∀ c ∈ (monthNames.getD i []).drop 3, toLowerB c ≠ 32 := by
  intro c hc
  have hl := month_tail_lower i hi c hc
  rw [toLowerB_of_lower c hl]
  simp only [isLowerB, Bool.and_eq_true, decide_eq_true_eq] at hl
  omega

/-- `hdel` is clause (b) of `Delimited`: `parse_month_name` tries the full names first, so after an abbreviation the text
    must not continue with the rest of the full name. -/
theorem parseMonthName_lex (k : Nat) (hk : 1 ≤ k ∧ k ≤ 12) (abbr : Bool) (mask : List Bool) (rest : Bytes)
    (hdel : abbr = true → (monthNames.getD (k - 1) []).length ≤ 3 ∨
      startsWithCI rest ((monthNames.getD (k - 1) []).drop 3) = false) :
    parseMonthName (recase mask (if abbr then (monthNames.getD (k - 1) []).take 3 else monthNames.getD (k - 1) []) ++ rest)
      = .ok ((k : Int), rest) := by
  have hi : k - 1 < monthNames.length := by have : monthNames.length = 12 := rfl; omega
  have full := fun mask => findName_names .Capital mask rest monthNames (k - 1) 1 monthNames_good hi
  have abb := findName_names .AbbrCapital mask rest monthNames (k - 1) 1 monthNames_good hi
  have hk' : ((1 + (k - 1) : Nat) : Int) = k := by omega
  unfold parseMonthName
  rw [show NAMESTYLE_CAPITAL = NameStyle.Capital.index from rfl, show NAMESTYLE_ABBRCAPITAL = NameStyle.AbbrCapital.index from rfl,
    month_name_table, month_name_table]
  simp only [isAbbrStyle, short, Bool.false_eq_true, ↓reduceIte] at full abb ⊢
  cases abbr with
  | false => simp only [Bool.false_eq_true, ↓reduceIte, full, drop_recase, Int.ofNat_eq_natCast, hk']
  | true =>
    rcases hdel rfl with hshort | hlong
    · simp only [↓reduceIte, List.take_of_length_le hshort, full, drop_recase, Int.ofNat_eq_natCast, hk']
    · simp only [↓reduceIte, findName_names_miss .Capital rfl mask rest monthNames monthNames_good _ (getD_mem _ _ hi) hlong,
        abb, drop_recase, Int.ofNat_eq_natCast, hk']

theorem parseWeekDayName_lex (style : NameStyle) (k : Nat) (hk : 1 ≤ k ∧ k ≤ 7) (mask : List Bool) (rest : Bytes) :
    parseWeekDayName (recase mask (if isAbbrStyle style then (dayNames.getD (k - 1) []).take 3 else dayNames.getD (k - 1) []) ++ rest)
      style = .ok ((k : Int), rest) := by
  have hi : k - 1 < dayNames.length := by have : dayNames.length = 7 := rfl; omega
  have hk' : ((1 + (k - 1) : Nat) : Int) = k := by omega
  have full := findName_names .Capital mask rest dayNames (k - 1) 1 dayNames_good hi
  have abb := findName_names .AbbrCapital mask rest dayNames (k - 1) 1 dayNames_good hi
  simp only [isAbbrStyle, short, Bool.false_eq_true, ↓reduceIte] at full abb
  unfold parseWeekDayName
  cases style <;>
    simp only [isAbbrStyle, Bool.false_eq_true, ↓reduceIte, show NAMESTYLE_CAPITAL = NameStyle.Capital.index from rfl,
      show NAMESTYLE_ABBRCAPITAL = NameStyle.AbbrCapital.index from rfl, day_name_table, full, abb, drop_recase,
      Int.ofNat_eq_natCast, hk']

theorem parseAmPm_lex (style : AmPmStyle) (pm : Bool) (mask : List Bool) (rest : Bytes) :
    parseAmPm (recase mask (meridianBase (dotted (.AmPm style)) pm) ++ rest) style = .ok (some pm, rest) := by
  have hne : ∀ a : Bytes, a ≠ [] → (recase mask a ++ rest).isEmpty = false := by
    intro a ha
    cases a with
    | nil => exact absurd rfl ha
    | cons c cs => cases mask <;> rfl
  have hdrop : ∀ (k : Nat) (a : Bytes), a.length = k → (recase mask a ++ rest).drop k = rest :=
    fun k a h => h ▸ drop_recase mask a rest
  -- the side conditions are facts about the two or four bytes of the indicator
  cases style <;> cases pm <;>
    simp (disch := decide) only [dotted, meridianBase, parseAmPm, hne, hdrop, startsWithCI_recase,
      startsWithCI_recase_differ, Bool.false_eq_true, ↓reduceIte]

theorem eatWs_meridian (dots pm : Bool) (mask : List Bool) (rest : Bytes) :
    eatWhitespaces (recase mask (meridianBase dots pm) ++ rest) = recase mask (meridianBase dots pm) ++ rest := by
  apply eatWs_name
  cases dots <;> cases pm <;> rfl

end SqlDt.Lemmas
