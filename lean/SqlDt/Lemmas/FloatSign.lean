/-
  Lemmas/FloatSign: the soft-float operations commute with negation (round-to-nearest-even and truncation toward
  zero are odd functions).  By cases on the constructors: `round` passes the sign bit through, so nothing of the
  theory of rounding is needed.
-/
import SqlDt.Model.F64
namespace SqlDt.Lemmas

theorem F64.round_neg (s : Bool) (num den : Nat) : F64.round (!s) num den = F64.neg (F64.round s num den) := by
  unfold F64.round
  split
  · rfl
  · split <;> rfl

theorem F64.mul_neg_left (a b : F64) : F64.mul (F64.neg a) b = F64.neg (F64.mul a b) := by
  cases a <;> cases b <;> simp only [F64.mul, F64.neg, Bool.not_bne, F64.round_neg] <;> split <;> rfl

theorem F64.mul_neg_right (a b : F64) : F64.mul a (F64.neg b) = F64.neg (F64.mul a b) := by
  cases a <;> cases b <;> simp only [F64.mul, F64.neg, Bool.bne_not, F64.round_neg] <;> split <;> rfl

theorem F64.div_neg_left (a b : F64) : F64.div (F64.neg a) b = F64.neg (F64.div a b) := by
  cases a <;> cases b <;> simp only [F64.div, F64.neg, Bool.not_bne, F64.round_neg, F64.zero]
  -- `fin / fin` is left: zero divisor (zero dividend or not), or the rounded quotient
  split
  · split <;> rfl
  · rfl

theorem F64.div_neg_right (a b : F64) : F64.div a (F64.neg b) = F64.neg (F64.div a b) := by
  cases a <;> cases b <;> simp only [F64.div, F64.neg, Bool.bne_not, F64.round_neg, F64.zero]
  split
  · split <;> rfl
  · rfl

/-- `(-n) as f64 = -(n as f64)` for `n ≠ 0` (for 0 the left side is +0, the right side −0). -/
theorem F64.ofInt_neg (n : Int) (h : n ≠ 0) : F64.ofInt (-n) = F64.neg (F64.ofInt n) := by
  unfold F64.ofInt
  rw [← F64.round_neg, Int.natAbs_neg]
  congr 1
  by_cases h1 : n < 0
  · have : ¬ (-n < 0) := by omega
    simp only [h1, this, decide_true, decide_false, Bool.not_true]
  · have : (-n < 0) := by omega
    simp only [h1, this, decide_true, decide_false, Bool.not_false]

theorem F64.truncInt_not (s : Bool) (m : Nat) (e : Int) : F64.truncInt (!s) m e = -F64.truncInt s m e := by
  unfold F64.truncInt
  cases s <;> simp

/-- Truncating casts are odd functions up to the asymmetry of the integer range
    (needs `lo ≤ hi`: for `hi + 1 < lo` the two sides test the bounds in opposite order). -/
theorem F64.toIntSat_neg (lo hi : Int) (x : F64) (h : lo ≤ hi) :
    F64.toIntSat lo hi (F64.neg x) = -(F64.toIntSat (-hi) (-lo) x) := by
  cases x with
  | nan => simp [F64.toIntSat, F64.neg]
  | inf s => cases s <;> simp [F64.toIntSat, F64.neg]
  | fin s m e =>
    simp only [F64.toIntSat, F64.neg, F64.truncInt_not]
    generalize F64.truncInt s m e = t
    repeat' split
    all_goals omega

end SqlDt.Lemmas
