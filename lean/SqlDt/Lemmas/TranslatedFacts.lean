/-
  Lemmas/TranslatedFacts: facts about the MODEL's functions (no translated function is mentioned) that the proofs of the
  translator tie hand to their automation before it runs: ranges (`Date.extract`, `Date.dayOfWeek`, `date2julian`, the
  date and time of day of a timestamp, table entries), the calendar facts "a valid date is not before the first day of
  its year, which is itself a valid date", and "what a checked operation returns is a valid value" for the operations
  whose result a translated function goes on to use.  (The few that Lemmas/TranslatedEq itself needs are there.)
  They stand in the namespaces of the proof files that use and open them: `TrEq` if a proof of an `_eq` uses the fact,
  else `TrSafe`, and inside these `TsU` / `IsoU` for the `Timestamp` and the ISO-year units.  One fact may occur in the
  shapes in which the proofs meet it: the date of a timestamp as `Timestamp.date ts`, `(Timestamp.extract ts).1` and
  `ts / 86400000000`.
-/
import SqlDt.Lemmas.TranslatedEq
import SqlDt.Lemmas.UnitsModel
import SqlDt.Props.C09
namespace SqlDt.TrEq
open SqlDt SqlDt.Gen SqlDt.TrTactic

theorem dayOfWeek_range (d : Int) : 1 ≤ Date.dayOfWeek d ∧ Date.dayOfWeek d ≤ 7 := C01.dayOfWeek_range d

-- The primes of `valid_date_range'`, `valid_ts_date'`, `valid_ts_range'` are part of the names and mean nothing (the text
-- of `tr_ts_shift` in Lemmas/TranslatedUnitsTs cites the first).
theorem valid_date_range' (d : Int) (hd : isValidDate d) : -2440588 ≤ d ∧ d ≤ 2145043059 := by
  rw [isValidDate_iff] at hd; omega

theorem first_of_year_le (d : Int) (hd : isValidDate d) : Date.fromYmdUnchecked (Date.extract d).1 1 1 ≤ d := by
  obtain ⟨y, m, dd, hv, rfl⟩ := SqlDt.Lemmas.date_decompose d hd
  rw [SqlDt.Lemmas.extract_dayNumber y m dd hv.2.2, SqlDt.Lemmas.fromYmd_eq_dayNumber y 1 1 (by have := hv.1; omega) (by omega)]
  exact (SqlDt.Lemmas.Cal.in_year hv.2.2).1

namespace TsU

/-- the date of a timestamp whose Julian day is non-negative lies in the range of `Date.extract_eq` -/
theorem ts_date_range (ts : Int) (h0 : -210866803200000000 ≤ ts) (h1 : ts ≤ 9223372036854775807) :
    -2440588 ≤ Timestamp.date ts ∧ Timestamp.date ts ≤ 2145043059 := by
  rw [SqlDt.Timestamp.date_eq]; omega

/-- `time.hour().unwrap()` of a time of day: the cast `as i32` is exact -/
theorem hour_cast (t : Int) (h0 : 0 ≤ t) (h1 : t < 86400000000) :
    asI32 (rdiv t USECONDS_PER_HOUR) = rdiv t USECONDS_PER_HOUR := by
  unfold USECONDS_PER_HOUR
  rw [rdiv_nonneg_eq h0]
  exact asI32_eq (by omega) (by omega)

theorem addDays_ok_valid (d k v : Int) (h : Date.addDays d k = .ok v) : isValidDate v := Date.addDays_ok_valid d k v h

end TsU

namespace IsoU

theorem jan4_bounds (y : Int) (hy : 0 ≤ y ∧ y ≤ 10000) :
    1721063 ≤ date2julian y 1 4 ∧ date2julian y 1 4 ≤ 5373488 := by
  have e := (SqlDt.Lemmas.UM.jan4_julian y hy.1).1
  have j := SqlDt.Lemmas.Cal.dayNumber_jan y 4
  have a := SqlDt.Lemmas.Cal.dby_mono 0 y hy.1
  have b := SqlDt.Lemmas.Cal.dby_mono y 10000 hy.2
  rw [SqlDt.Lemmas.UM.dby_zero] at a
  rw [SqlDt.Lemmas.Cal.dby_10000] at b
  omega

/-- 4 January of the year after a valid date lies in the range of `Date.extract_eq` (also after year 9999) -/
theorem next_jan4_range (d : Int) (hd : isValidDate d) :
    -2440588 ≤ Date.fromYmdUnchecked ((Date.extract d).1 + 1) 1 4 ∧
      Date.fromYmdUnchecked ((Date.extract d).1 + 1) 1 4 ≤ 2145043059 := by
  obtain ⟨⟨y1, y9, _⟩, _⟩ := SqlDt.Lemmas.extract_roundtrip d hd
  have j := jan4_bounds ((Date.extract d).1 + 1) (by omega)
  unfold Date.fromYmdUnchecked
  rw [SqlDt.UNIX_EPOCH_JULIAN_eq]
  omega

theorem valid_ts_date' (ts : Int) (hts : isValidTimestamp ts) : isValidDate (Timestamp.date ts) := by
  rw [SqlDt.Timestamp.date_eq]
  rw [isValidTimestamp_iff] at hts; rw [isValidDate_iff]; omega

theorem valid_ts_range' (ts : Int) (hts : isValidTimestamp ts) :
    -210866803200000000 ≤ ts ∧ ts ≤ 9223372036854775807 := by
  rw [isValidTimestamp_iff] at hts; omega

end IsoU

end SqlDt.TrEq

namespace SqlDt.TrSafe
open SqlDt SqlDt.Gen SqlDt.TrTactic SqlDt.TrEq SqlDt.TrEq.TsU SqlDt.TrEq.IsoU

theorem extract_valid (d : Int) (hd : isValidDate d) :
    1 ≤ (Date.extract d).1 ∧ (Date.extract d).1 ≤ 9999 ∧ 1 ≤ (Date.extract d).2.1 ∧ (Date.extract d).2.1 ≤ 12 ∧
    1 ≤ (Date.extract d).2.2 ∧ (Date.extract d).2.2 ≤ daysOfMonth (Date.extract d).1 (Date.extract d).2.1 ∧
    daysOfMonth (Date.extract d).1 (Date.extract d).2.1 ≤ 31 := by
  obtain ⟨⟨y1, y9, m1, m12, d1, dd⟩, _⟩ := SqlDt.Lemmas.extract_roundtrip d hd
  have hr := daysOfMonth_range (Date.extract d).1 (Date.extract d).2.1
  rw [SqlDt.Lemmas.daysOfMonth_eq _ _ ⟨m1, m12⟩]
  rw [SqlDt.Lemmas.daysOfMonth_eq _ _ ⟨m1, m12⟩] at hr
  exact ⟨y1, y9, m1, m12, d1, dd, hr.2⟩

/-- a coarse bound: all the overflow checks need -/
theorem date2julian_range (y m d : Int) (hy : 0 ≤ y ∧ y ≤ 10000) (hm : 1 ≤ m ∧ m ≤ 12) (hd : 1 ≤ d ∧ d ≤ 31) :
    1721000 ≤ date2julian y m d ∧ date2julian y m d ≤ 5374000 := by
  unfold date2julian
  dsimp only
  have h1 := rdiv_spec (if m > 2 then y + 4800 else y + 4799) 100
  have h2 := rdiv_spec (if m > 2 then y + 4800 else y + 4799) 4
  generalize rdiv (if m > 2 then y + 4800 else y + 4799) 100 = c at *
  generalize rdiv (if m > 2 then y + 4800 else y + 4799) 4 = q at *
  have h3 := rdiv_spec c 4
  generalize rdiv c 4 = c4 at *
  have h4 := rdiv_spec (7834 * if m > 2 then m + 1 else m + 13) 256
  generalize rdiv (7834 * if m > 2 then m + 1 else m + 13) 256 = w at *
  split at h1 <;> split at h4 <;> omega

theorem january_valid (y dd : Int) (hy : 1 ≤ y ∧ y ≤ 9999) (hdd : 1 ≤ dd ∧ dd ≤ 31) :
    isValidDate (Date.fromYmdUnchecked y 1 dd) := by
  refine (SqlDt.Lemmas.extract_fromYmd y 1 dd ⟨hy.1, hy.2, by omega, by omega, hdd.1, ?_⟩).1
  unfold Spec.dim
  simpa using hdd.2

theorem first_of_year_valid (d : Int) (hd : isValidDate d) :
    isValidDate (Date.fromYmdUnchecked (Date.extract d).1 1 1) :=
  have hx := extract_valid d hd
  january_valid _ 1 ⟨hx.1, hx.2.1⟩ (by omega)

theorem valid_ts_date (ts : Int) (hts : isValidTimestamp ts) : isValidDate (ts / 86400000000) := by
  rw [isValidTimestamp_iff] at hts; rw [isValidDate_iff]; omega

theorem sumOfDays_range (b i : Int) :
    0 ≤ idxD (idxD SUM_OF_DAYS_TABLE b []) i 0 ∧ idxD (idxD SUM_OF_DAYS_TABLE b []) i 0 ≤ 335 :=
  idxD_of_forall (P := fun x => 0 ≤ x ∧ x ≤ 335) (by decide)
    (idxD_of_forall (P := fun row => ∀ x ∈ row, 0 ≤ x ∧ x ≤ 335) (by decide) (by decide) _) i

theorem ts_addMonths_ok_valid (ts k v : Int) (h : Timestamp.addIntervalYm ts k = .ok v) :
    isValidTimestamp v := by
  rw [C09.ts_addIntervalYm_eq] at h
  obtain ⟨d, hd, rfl⟩ := Chk.map_eq_ok.1 h
  have hv := (isValidDate_iff _).1 (C09.addMonths_ok_valid _ k d hd)
  rw [isValidTimestamp_iff, SqlDt.Timestamp.new_eq]
  omega

theorem toIntSat_range (lo hi : Int) (h0 : lo ≤ 0) (h1 : 0 ≤ hi) (x : F64) :
    lo ≤ F64.toIntSat lo hi x ∧ F64.toIntSat lo hi x ≤ hi := by
  unfold F64.toIntSat
  cases x with
  | nan => exact ⟨h0, h1⟩
  | inf s => dsimp only; split <;> omega
  | fin s m e => dsimp only; split <;> (try split) <;> omega

@[tr_safe] theorem fitsI64_toI64 (x : F64) : fitsI64 (F64.toI64 x) :=
  toIntSat_range I64_MIN I64_MAX (by decide) (by decide) x
@[tr_safe] theorem fitsI32_toI32 (x : F64) : fitsI32 (F64.toI32 x) :=
  toIntSat_range I32_MIN I32_MAX (by decide) (by decide) x
@[tr_safe] theorem fitsU32_toU32 (x : F64) : fitsU32 (F64.toU32 x) :=
  toIntSat_range 0 U32_MAX (by decide) (by decide) x

theorem validateHms_ok (h mi s : Int) (u : Unit) (hv : Time.validateHms h mi s = .ok u) : h < 24 ∧ mi < 60 ∧ s < 60 := by
  unfold Time.validateHms HOURS_PER_DAY MINUTES_PER_HOUR SECONDS_PER_MINUTE at hv
  simp only [Chk.ite_error_eq_ok] at hv
  omega

theorem validateYmd_ok_julian (y m d : Int) (u : Unit) (h : Date.validateYmd y m d = .ok u) :
    1721000 ≤ date2julian y m d ∧ date2julian y m d ≤ 5374000 := by
  have hv := validateYmd_ok _ _ _ _ h
  exact date2julian_range y m d ⟨by omega, by omega⟩ ⟨hv.2.2.1, hv.2.2.2.1⟩ ⟨hv.2.2.2.2.1, hv.2.2.2.2.2⟩

theorem tryFromNDT_TS_ok_valid (dt : NDT) (r : Int) (h : Parser.tryFromNDT .TS dt = .ok r) : isValidTimestamp r := by
  simp only [Parser.tryFromNDT] at h
  obtain ⟨_, _, h⟩ := Chk.bind_eq_ok.1 h
  obtain ⟨_, _, h⟩ := Chk.bind_eq_ok.1 h
  exact Chk.gate_valid h

namespace TsU

/-- a week-table step (`sub_to_date` / `current_date`) of a valid date -/
theorem applyWeekTable_ok_valid (tbl : List (Bool × Int)) (i d r : Int) (hd : isValidDate d)
    (h : Date.applyWeekTable tbl i d = .ok r) : isValidDate r := by
  unfold Date.applyWeekTable at h
  simp only [bind, Except.bind, pure, Except.pure] at h
  split at h
  · cases h
  · split at h
    · exact Date.subDays_ok_valid _ _ _ h
    · cases h; exact hd

theorem roundWeekInternal_ok_valid (d y r : Int) (hd : isValidDate d) (h : Date.roundWeekInternal d y = .ok r) :
    isValidDate r := applyWeekTable_ok_valid _ _ _ _ hd h

theorem roundMonthStartWeekInternal_ok_valid (d day r : Int) (hd : isValidDate d)
    (h : Date.roundMonthStartWeekInternal d day = .ok r) : isValidDate r := applyWeekTable_ok_valid _ _ _ _ hd h

/-- the half-day shift written as an expression (`if … { date.add_days(1) } else { Ok(date) }`) of a valid date -/
theorem ite_addDays_ok_valid (c : Prop) [Decidable c] (d k r : Int) (hd : isValidDate d)
    (h : (if c then Date.addDays d k else Except.ok d) = .ok r) : isValidDate r := by
  split at h
  · exact addDays_ok_valid _ _ _ h
  · cases h; exact hd

end TsU

namespace IsoU

theorem weekDayOfJulian_range (j : Int) : 0 ≤ Date.weekDayOfJulian j ∧ Date.weekDayOfJulian j ≤ 6 := by
  unfold Date.weekDayOfJulian
  dsimp only
  have h := rrem_lt j (b := 7) (by decide)
  split <;> omega

/-- both bounds are attained: 1 January 0001 is a Monday (ISO year 1), 31 December 9999 a Friday (ISO year 9999) -/
theorem dateToIsoYear_range (d : Int) (hd : isValidDate d) :
    1 ≤ Date.dateToIsoYear d ∧ Date.dateToIsoYear d ≤ 9999 := by
  obtain ⟨y, m, dd, hv, rfl⟩ := SqlDt.Lemmas.date_decompose d hd
  exact SqlDt.Lemmas.UM.isoYear_range y m dd hv

theorem isoYear_first_valid (d : Int) (hd : isValidDate d) :
    isValidDate (Date.fromYmdUnchecked (Date.dateToIsoYear d) 1 1) :=
  january_valid _ 1 (dateToIsoYear_range d hd) (by omega)

theorem next_jan4_valid (d : Int) (hd : isValidDate d) (hy : (Date.extract d).1 ≠ 9999) :
    isValidDate (Date.fromYmdUnchecked ((Date.extract d).1 + 1) 1 4) :=
  have hx := extract_valid d hd
  january_valid _ 4 (by omega) (by omega)

theorem isoYearTable_fits (i : Int) : fitsI32 (idxD ISO_YEAR_TABLE i (false, 0)).2 :=
  idxD_of_forall (P := fun p : Bool × Int => fitsI32 p.2) (by decide) (by decide) i

end IsoU

end SqlDt.TrSafe
