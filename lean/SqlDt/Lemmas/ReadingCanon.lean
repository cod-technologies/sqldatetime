/-
  Lemmas/ReadingCanon: the canonical reading of a rendered text (`Spec.canon`: the lexemes `format` writes) meets the
  hypotheses of `parse_reading`: for a lossless picture it fits, it is delimited, and its text is the rendered text.
  Token by token; what a token needs of the picture is what `see` checked when it accepted the token.
-/
import SqlDt.Lemmas.ReadingConc
import SqlDt.Spec.Lossless
namespace SqlDt.Lemmas
open Spec

/-- Ranges the component record of a valid value of type `ty` satisfies (178000000 = `INTERVAL_MAX_YEAR`,
    100000000 = `INTERVAL_MAX_DAY`). -/
structure Bounds (ty : Ty) (c : Comps) : Prop where
  year : 0 ≤ c.year ∧ c.year ≤ (if ty = .YM then 178000000 else 9999)
  month : 0 ≤ c.month ∧ c.month ≤ 12
  monthD : hasDate ty = true → 1 ≤ c.month
  day : 0 ≤ c.day ∧ c.day ≤ (if ty = .DT then 100000000 else 31)
  hour : 0 ≤ c.hour ∧ c.hour ≤ 23
  minute : 0 ≤ c.minute ∧ c.minute ≤ 59
  sec : 0 ≤ c.sec ∧ c.sec ≤ 59
  usec : 0 ≤ c.usec ∧ c.usec ≤ 999999
  dow0 : 0 ≤ c.dow0 ∧ c.dow0 ≤ 6
  doy : 1 ≤ c.doy ∧ c.doy ≤ 366

/-- The field an interval's sign is written with. -/
def isLead (ty : Ty) (f : Field) : Bool :=
  match f with
  | .Year _ => ty = .YM
  | .Day => ty = .DT
  | _ => false

theorem numLex_text (f : Field) (w : Nat) (sg : Sign) (n : Nat) : (numLex w sg n).text f = sg.text ++ pad w n := by
  simp [numLex, Lex.text, spaces, pad]

theorem styled_month : ∀ style : NameStyle, ∀ i, i < 12 →
    styled style (monthNames.getD i []) =
      recase (nameMask style) (if isAbbrStyle style then (monthNames.getD i []).take 3 else monthNames.getD i []) := by
  intro style; cases style <;> decide

theorem styled_day : ∀ style : NameStyle, ∀ i, i < 7 →
    styled style (dayNames.getD i []) =
      recase (nameMask style) (if isAbbrStyle style then (dayNames.getD i []).take 3 else dayNames.getD i []) := by
  intro style; cases style <;> decide

theorem meridian_text (style : AmPmStyle) (hour : Int) :
    meridianText style hour = recase (ampmMask style) (meridianBase (dotted (.AmPm style)) (decide (12 ≤ hour))) := by
  by_cases h : hour < 12
  · have h' : ¬ 12 ≤ hour := by omega
    cases style <;> simp [meridianText, h, h', dotted, meridianBase, ampmMask] <;> decide
  · have h' : 12 ≤ hour := by omega
    cases style <;> simp [meridianText, h, h', dotted, meridianBase, ampmMask] <;> decide

theorem pad_one_digit : ∀ d, d ≤ 9 → pad 1 d = [d + 48] := by decide

theorem fraction_bound (u : Int) (hu : 0 ≤ u ∧ u ≤ 999999) (p : Nat) :
    0 ≤ fractionOf u p ∧ fractionOf u p < (10 ^ p : Nat) := by
  unfold fractionOf
  split
  · -- `u < 10⁶ = 10ᵖ · 10⁶⁻ᵖ`
    have hk : (0 : Int) < ((10 ^ (6 - p) : Nat) : Int) := by positivity
    refine ⟨Int.ediv_nonneg hu.1 hk.le, Int.ediv_lt_of_lt_mul hk ?_⟩
    rw [← Int.natCast_mul, ← Nat.pow_add, show p + (6 - p) = 6 by omega]
    omega
  · have hk : (0 : Int) < ((10 ^ (p - 6) : Nat) : Int) := by positivity
    refine ⟨Int.mul_nonneg hu.1 hk.le, ?_⟩
    rw [show p = 6 + (p - 6) by omega, Nat.pow_add, Int.natCast_mul, show 6 + (p - 6) - 6 = p - 6 by omega]
    exact Int.mul_lt_mul_of_pos_right (by omega) hk

theorem frac_pad (u : Int) (hu : 0 ≤ u ∧ u ≤ 999999) (q : Nat) (hq : 1 ≤ q) :
    (pad q (fractionOf u q).toNat).length = q ∧ Digs (pad q (fractionOf u q).toNat) := by
  obtain ⟨f0, f1⟩ := fraction_bound u hu q
  exact ⟨pad_length q _ hq (by omega), pad_digs q _⟩

theorem canon_text (ty : Ty) (c : Comps) (hb : Bounds ty c) (f : Field) (hwf : Field.WellFormed f)
    (happ : applicable ty f = true) (t : Bytes) (hr : renderField ty c f = some t) :
    (canonLex ty c f).text f = (if isLead ty f then (signOf c.neg).text else []) ++ t := by
  match f with
  | .Blank _ | .Hyphen | .Colon | .Slash | .Backslash | .Comma | .Dot | .Semicolon | .T => cases hr; rfl
  | .Year w =>
    by_cases hym : ty = .YM
    · subst hym
      cases hr
      simp [canonLex, numLex_text, isLead]
    · have hd : ty = .D ∨ ty = .TS ∨ ty = .OD := by simpa [applicable, hasDate_iff, hym] using happ
      simp only [renderField, hd, ↓reduceIte, Option.some.injEq] at hr
      subst hr
      simp [canonLex, numLex_text, isLead, Sign.text, hym]
  | .Day =>
    obtain ⟨_, ⟨⟩⟩ := Option.ite_none_right_eq_some.1 hr
    by_cases hdt : ty = .DT <;> simp [canonLex, numLex_text, isLead, Sign.text, hdt]
  | .Month | .Hour24 | .Hour12 | .Minute | .Second | .DayOfYear =>
    obtain ⟨_, ⟨⟩⟩ := Option.ite_none_right_eq_some.1 hr
    simp [canonLex, numLex_text, isLead, Sign.text]
  | .DayOfWeek =>
    obtain ⟨_, ⟨⟩⟩ := Option.ite_none_right_eq_some.1 hr
    have := hb.dow0
    simp [canonLex, Lex.text, spaces, isLead, pad_one_digit (c.dow0 + 1).toNat (by omega)]
  | .Fraction p =>
    obtain ⟨_, ⟨⟩⟩ := Option.ite_none_right_eq_some.1 hr
    simp [canonLex, Lex.text, spaces, isLead, map_sub_add _ (frac_pad c.usec hb.usec _ (wf_fraction hwf).1).2]
  | .AmPm style =>
    obtain ⟨_, ⟨⟩⟩ := Option.ite_none_right_eq_some.1 hr
    simp [canonLex, Lex.text, spaces, isLead, meridian_text]
  | .MonthName style =>
    obtain ⟨_, ⟨⟩⟩ := Option.ite_none_right_eq_some.1 hr
    have hm := hb.month
    have hi : (c.month - 1).toNat = c.month.toNat - 1 := by omega
    simp only [canonLex, Lex.text, spaces, isLead, List.replicate_zero, List.nil_append, fullName, namesOf, hi,
      ↓reduceIte, Bool.false_eq_true]
    exact (styled_month style _ (by omega)).symm
  | .DayName style =>
    obtain ⟨_, ⟨⟩⟩ := Option.ite_none_right_eq_some.1 hr
    have hd := hb.dow0
    have hi : (c.dow0 + 1).toNat - 1 = c.dow0.toNat := by omega
    simp only [canonLex, Lex.text, spaces, isLead, List.replicate_zero, List.nil_append, fullName, namesOf, hi,
      ↓reduceIte, Bool.false_eq_true]
    exact (styled_day style _ (by omega)).symm

/-- `k` stands for the token's `maxDigits`. -/
theorem numLex_width (w k n : Nat) (hn : n < 10 ^ k) (hwk : w ≤ k) (hk : 1 ≤ k ∧ k ≤ 9) :
    (numWidth (w - (digits n).length) n ≤ k ∧ n < 10 ^ 9) ∧ (w = k → numWidth (w - (digits n).length) n = k) := by
  have : (10:Nat) ^ k ≤ 10 ^ 9 := Nat.pow_le_pow_right (by decide) hk.2
  have := digits_length_le n k hk.1 hn
  unfold numWidth
  omega

theorem hour12Of_range (h : Int) : 1 ≤ hour12Of h ∧ hour12Of h ≤ 12 := by
  unfold hour12Of; omega

/-- Needs nothing of the picture: a token that does not apply to the type fits whatever is written. -/
theorem canon_fits (ty : Ty) (c : Comps) (hb : Bounds ty c) (f : Field) (hwf : Field.WellFormed f) :
    (canonLex ty c f).fits ty f = true := by
  unfold Lex.fits
  split
  · rfl
  rename_i happ
  simp only [Bool.not_eq_true] at happ
  obtain ⟨hy, hm, hmD, hd, hh, hmi, hs, hu, hw, hdo⟩ := hb
  have h12 := hour12Of_range c.hour
  match f with
  | .Blank _ | .Hyphen | .Colon | .Slash | .Backslash | .Comma | .Dot | .Semicolon | .T | .AmPm _ => rfl
  | .Year w =>
    have hw4 : 1 ≤ w ∧ w ≤ 4 := hwf
    by_cases hym : ty = .YM
    · simp only [hym, ↓reduceIte] at hy
      simp only [canonLex, numLex, maxDigits_eq, hym, ↓reduceIte, Bool.and_eq_true, decide_eq_true_eq]
      exact (numLex_width w 9 _ (by omega) (by omega) (by omega)).1
    · have : (c.year % ((10 ^ w : Nat) : Int)).toNat < 10 ^ w := by
        have hp : (0 : Int) < ((10 ^ w : Nat) : Int) := by positivity
        have := Int.emod_lt_of_pos c.year hp
        have := Int.emod_nonneg c.year (ne_of_gt hp)
        omega
      have : (10:Nat) ^ w ≤ 10 ^ (if w = 2 then 4 else w) := Nat.pow_le_pow_right (by decide) (by split <;> omega)
      simp only [canonLex, numLex, maxDigits_eq, hym, ↓reduceIte, Bool.and_eq_true, decide_eq_true_eq]
      exact (numLex_width w _ _ (by omega) (by split <;> omega) (by split <;> omega)).1
  | .Day =>
    by_cases hdt : ty = .DT <;> simp only [hdt, ↓reduceIte] at hd <;>
      simp only [canonLex, numLex, maxDigits_eq, hdt, ↓reduceIte, Bool.and_eq_true, decide_eq_true_eq] <;>
      exact (numLex_width 2 _ _ (by omega) (by omega) (by omega)).1
  | .Month | .Hour24 | .Hour12 | .Minute | .Second | .DayOfYear =>
    simp only [canonLex, numLex, maxDigits_eq, Bool.and_eq_true, decide_eq_true_eq]
    exact (numLex_width _ _ _ (by omega) (by omega) (by omega)).1
  | .MonthName _ =>
    have := hmD (by simpa [applicable] using happ)
    simp [canonLex]; omega
  | .DayOfWeek | .DayName _ => simp [canonLex]; omega
  | .Fraction p =>
    obtain ⟨h1, _, hle⟩ := wf_fraction hwf
    obtain ⟨hlen, hdig⟩ := frac_pad c.usec hu _ h1
    simp only [canonLex, List.length_map, hlen, maxDigits_eq, digs_values _ hdig, Bool.and_eq_true, decide_eq_true_eq]
    exact ⟨⟨h1, hle⟩, trivial⟩

def SafeHead (rest : Bytes) : Prop :=
  rest = [] ∨ ∃ ch tl, rest = ch :: tl ∧ isDigitB ch = false ∧ isLowerB (toLowerB ch) = false

theorem safeHead_nextIsDigit (rest : Bytes) (h : SafeHead rest) : nextIsDigit rest = false := by
  rcases h with rfl | ⟨ch, tl, rfl, hd, _⟩
  · rfl
  · exact hd

theorem safeHead_startsWithCI (rest : Bytes) (h : SafeHead rest) (b : Nat) (bs : Bytes) (hb : isLowerB b = true) :
    startsWithCI rest (b :: bs) = false := by
  rcases h with rfl | ⟨ch, tl, rfl, _, hl⟩
  · rfl
  · simp only [startsWithCI, eqIgnoreCaseB]
    have : (toLowerB ch == toLowerB b) = false := by
      rw [toLowerB_of_lower b hb]
      simp only [beq_eq_false_iff_ne, ne_eq]
      intro e; rw [e, hb] at hl; cases hl
    simp [this]

/-- `hy4` comes from `see`; here it matters for `YY`, which is written with two digits and read with up to four.
    `later` is arbitrary: only an omitted lexeme looks at it. -/
theorem canon_itemOK (ty : Ty) (c : Comps) (hb : Bounds ty c) (f : Field) (hwf : Field.WellFormed f)
    (happ : applicable ty f = true) (hy4 : ∀ w, f = .Year w → hasDate ty = true → w = 4)
    (later : List (Field × Lex)) (rest : Bytes) (hsep : needsSeparator ty f = true → SafeHead rest) :
    itemOK ty f (canonLex ty c f) later rest = true := by
  obtain ⟨hy, hm, hmD, hd, hh, hmi, hs, hu, _, hdo⟩ := hb
  have h12 := hour12Of_range c.hour
  match f with
  | .Blank _ | .Hyphen | .Colon | .Slash | .Backslash | .Comma | .Dot | .Semicolon | .T | .AmPm _ | .DayOfWeek => rfl
  | .DayName style => cases h : isAbbrStyle style <;> simp [canonLex, itemOK, isMonthToken, h]
  | .Month | .Hour24 | .Hour12 | .Minute | .Second | .DayOfYear =>
    simp only [canonLex, numLex, itemOK, maxDigits_eq, Bool.or_eq_true, beq_iff_eq]
    exact Or.inl ((numLex_width _ _ _ (by omega) (by omega) (by omega)).2 rfl)
  | .Year w =>
    by_cases hym : ty = .YM
    · have := safeHead_nextIsDigit rest (hsep (by simp [needsSeparator, hym]))
      simp [canonLex, numLex, itemOK, hym, this]
    · obtain rfl := hy4 w rfl (by simpa [applicable, hym] using happ)
      simp only [hym, ↓reduceIte] at hy
      simp only [canonLex, numLex, itemOK, maxDigits_eq, hym, ↓reduceIte, Bool.or_eq_true, beq_iff_eq]
      exact Or.inl ((numLex_width 4 4 _ (by omega) (by omega) (by omega)).2 rfl)
  | .Day =>
    by_cases hdt : ty = .DT
    · have := safeHead_nextIsDigit rest (hsep (by simp [needsSeparator, hdt]))
      simp [canonLex, numLex, itemOK, hdt, this]
    · simp only [hdt, ↓reduceIte] at hd
      simp only [canonLex, numLex, itemOK, maxDigits_eq, hdt, ↓reduceIte, Bool.or_eq_true, beq_iff_eq]
      exact Or.inl ((numLex_width 2 2 _ (by omega) (by omega) (by omega)).2 rfl)
  | .MonthName style =>
    cases ha : isAbbrStyle style with
    | false => simp [canonLex, itemOK, ha]
    | true =>
      have hsafe := hsep (by simp [needsSeparator, ha])
      simp only [canonLex, itemOK, ha, isMonthToken, Bool.not_true, Bool.false_or, Bool.or_eq_true,
        Bool.not_eq_true', fullName, namesOf]
      have hm1 := hmD (by simpa [applicable] using happ)
      cases htail : (monthNames.getD (c.month.toNat - 1) []).drop 3 with
      | nil =>
        left
        have hl : ((monthNames.getD (c.month.toNat - 1) []).drop 3).length = 0 := by rw [htail]; rfl
        rw [List.length_drop] at hl
        exact decide_eq_true (Nat.le_of_sub_eq_zero hl)
      | cons b bs =>
        right
        have hbl := month_tail_lower (c.month.toNat - 1) (by omega) b (by rw [htail]; simp)
        exact safeHead_startsWithCI rest hsafe b bs hbl
  | .Fraction none =>
    have := safeHead_nextIsDigit rest (hsep rfl)
    simp [canonLex, itemOK, this]
  | .Fraction (some q) =>
    have hq : 1 ≤ q ∧ q ≤ 9 := hwf
    simp [canonLex, itemOK, maxDigits_eq, (frac_pad c.usec hu q hq.1).1]

theorem ite_none_eq_some {α : Type} {b : Bool} {a a' : α} (h : (if b = true then none else some a) = some a') :
    b = false ∧ a = a' := by
  cases b <;> simp_all

theorem see_facts (ty : Ty) (s s' : Seen) (f : Field) (h : see ty s f = some s') :
    applicable ty f = true ∧ (∀ w, f = .Year w → hasDate ty = true → w = 4) ∧
    (∀ p, f = .Fraction p → 6 ≤ p.getD 6) := by
  unfold see at h
  split at h
  · cases h
  · rename_i happ
    refine ⟨by simpa using happ, ?_, ?_⟩
    · rintro w rfl hd
      simp only [hd, Bool.true_and, Option.ite_none_left_eq_some, Bool.or_eq_true, bne_iff_ne, not_or, not_not] at h
      exact h.1.2
    · rintro p rfl
      simp only [Option.ite_none_left_eq_some, Bool.or_eq_true, decide_eq_true_eq, not_or, Nat.not_lt] at h
      exact h.1.2

theorem seeAll_cons (ty : Ty) (s s' : Seen) (f : Field) (fs : List Field) (h : seeAll ty s (f :: fs) = some s') :
    ∃ s1, see ty s f = some s1 ∧ seeAll ty s1 fs = some s' :=
  Option.bind_eq_some_iff.1 h

theorem seeAll_mem (ty : Ty) (fields : List Field) (s s' : Seen) (h : seeAll ty s fields = some s') :
    ∀ f ∈ fields, ∃ s₁ s₂, see ty s₁ f = some s₂ := by
  induction fields generalizing s with
  | nil => simp
  | cons g rest ih =>
    obtain ⟨s1, h1, h2⟩ := seeAll_cons ty s s' g rest h
    intro f hf
    rcases List.mem_cons.1 hf with rfl | hf
    · exact ⟨s, s1, h1⟩
    · exact ih s1 h2 f hf

theorem sep_text (ty : Ty) (c : Comps) (g : Field) (hs : isSeparator g = true) (more : Bytes) :
    SafeHead ((canonLex ty c g).text g ++ more) := by
  right
  cases g <;> simp [isSeparator] at hs
  · rename_i n
    obtain ⟨k, rfl⟩ : ∃ k, n = k + 1 := ⟨n - 1, by omega⟩
    exact ⟨32, spaces k ++ more, by simp [canonLex, Lex.text, spaces_succ], by decide, by decide⟩
  all_goals exact ⟨_, more, rfl, by decide, by decide⟩

theorem writeItems_canon_cons (ty : Ty) (c : Comps) (f : Field) (fs : List Field) :
    writeItems (canon ty c (f :: fs)) = (canonLex ty c f).text f ++ writeItems (canon ty c fs) := rfl

theorem safeHead_of_separated (ty : Ty) (c : Comps) (f : Field) (rest : List Field)
    (hsep : separated ty (f :: rest) = true) (hn : needsSeparator ty f = true) :
    SafeHead (writeItems (canon ty c rest)) := by
  cases rest with
  | nil => exact Or.inl rfl
  | cons g r =>
    simp only [separated, hn, Bool.not_true, Bool.false_or, Bool.and_eq_true] at hsep
    exact sep_text ty c g hsep.1 _

theorem separated_tail (ty : Ty) (f : Field) (rest : List Field) (hsep : separated ty (f :: rest) = true) :
    separated ty rest = true := by
  cases rest with
  | nil => rfl
  | cons g r => simp only [separated, Bool.and_eq_true] at hsep; exact hsep.2

theorem canon_delimited (ty : Ty) (c : Comps) (hb : Bounds ty c) (fields : List Field)
    (hsee : ∀ f ∈ fields, ∃ s₁ s₂, see ty s₁ f = some s₂) (hwf : ∀ f ∈ fields, Field.WellFormed f)
    (hsep : separated ty fields = true) : delimitedFrom ty (canon ty c fields) = true := by
  induction fields with
  | nil => rfl
  | cons f rest ih =>
    -- accepted by `see` in some state: `see_facts` does not depend on the state
    obtain ⟨s₁, s₂, h⟩ := hsee f (by simp)
    obtain ⟨happ, hy4, _⟩ := see_facts ty s₁ s₂ f h
    have hitem := canon_itemOK ty c hb f (hwf f (by simp)) happ hy4 (canon ty c rest) _
      (safeHead_of_separated ty c f rest hsep)
    have ih := ih (fun g hg => hsee g (by simp [hg])) (fun g hg => hwf g (by simp [hg])) (separated_tail ty f rest hsep)
    exact Bool.and_eq_true_iff.2 ⟨hitem, ih⟩

theorem renderAll_cons (ty : Ty) (c : Comps) (f : Field) (fs : List Field) (t : Bytes) :
    renderAll ty c (f :: fs) = some t ↔
      ∃ a, renderField ty c f = some a ∧ ∃ b, renderAll ty c fs = some b ∧ a ++ b = t := by
  simp [renderAll, Option.bind_eq_some_iff]

/-- Once the leading field of an interval has been seen – and for the other types from the start – no token is a
    leading field (`see` rejects a second year / day), and that remains so. -/
theorem see_lead (ty : Ty) (s s' : Seen) (f : Field) (h : see ty s f = some s') (hy : ty = .YM → s.year = true)
    (hd : ty = .DT → s.day = true) :
    isLead ty f = false ∧ (ty = .YM → s'.year = true) ∧ (ty = .DT → s'.day = true) := by
  unfold see at h
  split at h
  · cases h
  match f with
  | .Blank _ | .Hyphen | .Colon | .Slash | .Backslash | .Comma | .Dot | .Semicolon | .T =>
    cases h; exact ⟨rfl, hy, hd⟩
  | .Month | .MonthName _ | .Hour24 | .Hour12 | .AmPm _ | .Minute | .Second | .Fraction _ | .DayName _ | .DayOfWeek
  | .DayOfYear =>
    obtain ⟨_, rfl⟩ := ite_none_eq_some h; exact ⟨rfl, hy, hd⟩
  | .Year _ =>
    obtain ⟨hfree, rfl⟩ := ite_none_eq_some h
    have hs : s.year = false := (Bool.or_eq_false_iff.1 hfree).1
    exact ⟨decide_eq_false fun hty => by simp [hy hty] at hs, fun _ => rfl, hd⟩
  | .Day =>
    obtain ⟨hs, rfl⟩ := ite_none_eq_some h
    exact ⟨decide_eq_false fun hty => by simp [hd hty] at hs, hy, fun _ => rfl⟩

theorem canon_write_from (ty : Ty) (c : Comps) (hb : Bounds ty c) : ∀ (fields : List Field) (s s' : Seen) (t : Bytes),
    seeAll ty s fields = some s' → (ty = .YM → s.year = true) → (ty = .DT → s.day = true) →
    (∀ f ∈ fields, Field.WellFormed f) → renderAll ty c fields = some t → writeItems (canon ty c fields) = t
  | [], _, _, t, _, _, _, _, h => by cases h; rfl
  | f :: rest, s, s', t, hsee, hy, hd, hwf, h => by
    obtain ⟨s1, h1, h2⟩ := seeAll_cons ty s s' f rest hsee
    obtain ⟨hl, hy1, hd1⟩ := see_lead ty s s1 f h1 hy hd
    obtain ⟨a, hr, b, hra, rfl⟩ := (renderAll_cons ty c f rest t).1 h
    rw [writeItems_canon_cons, canon_text ty c hb f (hwf f (by simp)) (see_facts ty s s1 f h1).1 a hr, hl,
      canon_write_from ty c hb rest s1 s' b h2 hy1 hd1 (fun g hg => hwf g (by simp [hg])) hra]
    rfl

theorem canon_write (ty : Ty) (c : Comps) (hb : Bounds ty c) (fields : List Field) (s' : Seen)
    (hsee : seeAll ty {} fields = some s') (hlead : leadFirst ty fields = true)
    (hwf : ∀ f ∈ fields, Field.WellFormed f) (hneg : ty ≠ .YM → ty ≠ .DT → c.neg = false) (text : Bytes)
    (hr : render ty c fields = some text) : write (canon ty c fields) 0 = text := by
  obtain ⟨body, hra, rfl⟩ : ∃ body, renderAll ty c fields = some body ∧
      (if c.neg then [45] else if ty = .YM ∨ ty = .DT then [43] else []) ++ body = text := by
    simpa [render, Option.bind_eq_some_iff] using hr
  rw [write, spaces, List.replicate_zero, List.append_nil]
  by_cases hint : ty = .YM ∨ ty = .DT
  · -- interval: the first token carries the sign
    cases fields with
    | nil => rcases hint with rfl | rfl <;> cases hlead
    | cons f rest =>
      obtain ⟨s1, h1, h2⟩ := seeAll_cons ty {} s' f rest hsee
      -- `leadFirst` makes `f` the leading field, and `see` sets its flag
      have hfl : isLead ty f = true ∧ (ty = .YM → s1.year = true) ∧ (ty = .DT → s1.day = true) := by
        rcases hint with rfl | rfl <;> cases f <;> cases hlead <;>
          (simp [see, applicable, hasDate] at h1; subst h1; simp [isLead])
      obtain ⟨a, hrf, b, hrr, rfl⟩ := (renderAll_cons ty c f rest body).1 hra
      rw [writeItems_canon_cons, canon_text ty c hb f (hwf f (by simp)) (see_facts ty _ s1 f h1).1 a hrf, hfl.1,
        canon_write_from ty c hb rest s1 s' b h2 hfl.2.1 hfl.2.2 (fun g hg => hwf g (by simp [hg])) hrr]
      cases c.neg <;> simp [signOf, Sign.text, hint]
  · rw [canon_write_from ty c hb fields {} s' body hsee (fun h => absurd (Or.inl h) hint)
      (fun h => absurd (Or.inr h) hint) hwf hra]
    simp [hneg (fun h => hint (Or.inl h)) (fun h => hint (Or.inr h)), hint]

end SqlDt.Lemmas
