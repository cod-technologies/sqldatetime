/-
  Lemmas/Calendar: the crate's Julian-day arithmetic (Model/Common, Model/Types) realises the proleptic Gregorian
  calendar of Spec/Calendar.  First the calendar as a theory of the closed-form day number (order, successor, every
  integer is the day number of a real date: `exists_date`); then the crate: its tables are the calendar's, `date2julian`
  computes the day number and `julian2date` inverts it on every real date, by following its stages with `omega`.
  Lemmas that only serve others are in the sub-namespace `Cal`.
-/
import SqlDt.Lemmas.Consts
import SqlDt.Spec.Calendar
namespace SqlDt.Lemmas
open SqlDt Gen Spec

namespace Cal

/-! ### Leap years and the month table, in the form `omega` reads -/

theorem isLeap_iff (y : Int) : isLeap y = true ↔ y % 4 = 0 ∧ (y % 100 ≠ 0 ∨ y % 400 = 0) := by simp [isLeap]

def leapI (y : Int) : Int := if isLeap y then 1 else 0

theorem leapI_spec (y : Int) :
    (leapI y = 1 ∧ y % 4 = 0 ∧ (y % 100 ≠ 0 ∨ y % 400 = 0)) ∨
    (leapI y = 0 ∧ ¬ (y % 4 = 0 ∧ (y % 100 ≠ 0 ∨ y % 400 = 0))) := by
  unfold leapI
  split
  · exact .inl ⟨rfl, (isLeap_iff y).1 ‹_›⟩
  · exact .inr ⟨rfl, mt (isLeap_iff y).2 ‹_›⟩

theorem months12 (m : Int) (hm : 1 ≤ m ∧ m ≤ 12) :
    m = 1 ∨ m = 2 ∨ m = 3 ∨ m = 4 ∨ m = 5 ∨ m = 6 ∨ m = 7 ∨ m = 8 ∨ m = 9 ∨ m = 10 ∨ m = 11 ∨ m = 12 := by
  omega

theorem dim_eq (y m : Int) : dim y m =
    if m = 2 then 28 + leapI y else if m = 4 ∨ m = 6 ∨ m = 9 ∨ m = 11 then 30 else 31 := by
  unfold dim leapI; cases isLeap y <;> simp

theorem dim_range (y m : Int) : 28 ≤ dim y m ∧ dim y m ≤ 31 := by
  rw [dim_eq]; have := leapI_spec y
  split
  · omega
  · split <;> omega

theorem dbm_eq (y m : Int) : daysBeforeMonth y m =
    (if m = 1 then 0 else if m = 2 then 31 else if m = 3 then 59 else if m = 4 then 90 else if m = 5 then 120
    else if m = 6 then 151 else if m = 7 then 181 else if m = 8 then 212 else if m = 9 then 243
    else if m = 10 then 273 else if m = 11 then 304 else 334) + (if m > 2 then leapI y else 0) := by
  unfold daysBeforeMonth leapI
  by_cases hm : m > 2 <;> cases isLeap y <;> simp [hm]

theorem month_table (y m : Int) (hm : 1 ≤ m ∧ m ≤ 12) :
    (m = 1 ∧ daysBeforeMonth y m = 0 ∧ dim y m = 31) ∨
    (m = 2 ∧ daysBeforeMonth y m = 31 ∧ dim y m = 28 + leapI y) ∨
    (m = 3 ∧ daysBeforeMonth y m = 59 + leapI y ∧ dim y m = 31) ∨
    (m = 4 ∧ daysBeforeMonth y m = 90 + leapI y ∧ dim y m = 30) ∨
    (m = 5 ∧ daysBeforeMonth y m = 120 + leapI y ∧ dim y m = 31) ∨
    (m = 6 ∧ daysBeforeMonth y m = 151 + leapI y ∧ dim y m = 30) ∨
    (m = 7 ∧ daysBeforeMonth y m = 181 + leapI y ∧ dim y m = 31) ∨
    (m = 8 ∧ daysBeforeMonth y m = 212 + leapI y ∧ dim y m = 31) ∨
    (m = 9 ∧ daysBeforeMonth y m = 243 + leapI y ∧ dim y m = 30) ∨
    (m = 10 ∧ daysBeforeMonth y m = 273 + leapI y ∧ dim y m = 31) ∨
    (m = 11 ∧ daysBeforeMonth y m = 304 + leapI y ∧ dim y m = 30) ∨
    (m = 12 ∧ daysBeforeMonth y m = 334 + leapI y ∧ dim y m = 31) := by
  rw [dbm_eq, dim_eq]
  rcases months12 m hm with h | h | h | h | h | h | h | h | h | h | h | h <;> subst h <;> simp

theorem dby_succ (y : Int) : daysBeforeYear (y + 1) = daysBeforeYear y + 365 + leapI y := by
  unfold daysBeforeYear
  rw [Int.add_sub_cancel]
  have hl := leapI_spec y
  omega

theorem dby_mono (y y' : Int) (h : y ≤ y') : daysBeforeYear y + 365 * (y' - y) ≤ daysBeforeYear y' := by
  unfold daysBeforeYear; omega

theorem dbm_succ (y m : Int) (hm : 1 ≤ m ∧ m ≤ 11) :
    daysBeforeMonth y (m + 1) = daysBeforeMonth y m + dim y m := by
  rw [dbm_eq, dbm_eq, dim_eq]
  have hl := leapI_spec y
  rcases months12 m ⟨hm.1, by omega⟩ with h | h | h | h | h | h | h | h | h | h | h | h <;> subst h <;> simp <;> omega

theorem dbm_nonneg (y m : Int) (hm : 1 ≤ m ∧ m ≤ 12) : 0 ≤ daysBeforeMonth y m := by
  have hl := leapI_spec y
  have := month_table y m hm
  omega

theorem dbm_dim_le (y m : Int) (hm : 1 ≤ m ∧ m ≤ 12) :
    daysBeforeMonth y m + dim y m ≤ 365 + leapI y := by
  have hl := leapI_spec y
  have := month_table y m hm
  omega

theorem dbm_lt (y m m' : Int) (hm : 1 ≤ m) (hmm : m < m') (hm' : m' ≤ 12) :
    daysBeforeMonth y m + dim y m ≤ daysBeforeMonth y m' := by
  have hl := leapI_spec y
  have := month_table y m ⟨hm, by omega⟩
  have := month_table y m' ⟨by omega, hm'⟩
  omega

theorem isDate_first (y m : Int) (hm : 1 ≤ m ∧ m ≤ 12) : IsDate y m 1 := by
  have := dim_range y m; exact ⟨hm.1, hm.2, by omega, by omega⟩

theorem dn_day (y m d : Int) : dayNumber y m d = dayNumber y m 1 + (d - 1) := by
  unfold dayNumber; omega

theorem dayNumber_jan (y d : Int) : dayNumber y 1 d = daysBeforeYear y + d - 719163 := by
  unfold dayNumber; rw [dbm_eq]; simp

theorem month_succ (y m : Int) (hm : 1 ≤ m ∧ m ≤ 11) : dayNumber y (m + 1) 1 = dayNumber y m 1 + dim y m := by
  unfold dayNumber; rw [dbm_succ y m hm]; omega

theorem jan1_succ (y : Int) : dayNumber (y + 1) 1 1 = dayNumber y 1 1 + 365 + leapI y := by
  rw [dayNumber_jan, dayNumber_jan, dby_succ]; omega

theorem jan1_mono (y y' : Int) (h : y ≤ y') : dayNumber y 1 1 + 365 * (y' - y) ≤ dayNumber y' 1 1 := by
  rw [dayNumber_jan, dayNumber_jan]; have := dby_mono y y' h; omega

theorem in_year {y m d : Int} (h : IsDate y m d) :
    dayNumber y 1 1 ≤ dayNumber y m d ∧ dayNumber y m d < dayNumber (y + 1) 1 1 := by
  obtain ⟨h1, h2, h3, h4⟩ := h
  have a := dbm_nonneg y m ⟨h1, h2⟩
  have b := dbm_dim_le y m ⟨h1, h2⟩
  rw [jan1_succ, dayNumber_jan]; unfold dayNumber; omega

theorem jan1_le_iff {y m d : Int} (h : IsDate y m d) (Y : Int) : dayNumber Y 1 1 ≤ dayNumber y m d ↔ Y ≤ y := by
  have ⟨lo, hi⟩ := in_year h
  constructor
  · intro hle
    refine Int.not_lt.1 fun hc => ?_
    have := jan1_mono (y + 1) Y (by omega); omega
  · intro hle
    have := jan1_mono Y y hle; omega

theorem dby_one : daysBeforeYear 1 = 0 := by decide
theorem dby_10000 : daysBeforeYear 10000 = 3652059 := by decide

/-- The supported range of day numbers is that of the years 1..9999. -/
theorem min_le_iff {y m d : Int} (h : IsDate y m d) : -719162 ≤ dayNumber y m d ↔ 1 ≤ y := by
  have := jan1_le_iff h 1
  rwa [dayNumber_jan, dby_one] at this

theorem le_max_iff {y m d : Int} (h : IsDate y m d) : dayNumber y m d ≤ 2932896 ↔ y ≤ 9999 := by
  have := jan1_le_iff h 10000
  rw [dayNumber_jan, dby_10000] at this
  omega

theorem validYMD_of_range (y m d : Int) (h : IsDate y m d)
    (hr : -719162 ≤ dayNumber y m d ∧ dayNumber y m d ≤ 2932896) : ValidYMD y m d :=
  ⟨(min_le_iff h).1 hr.1, (le_max_iff h).1 hr.2, h⟩

theorem dn_lt_of_lex {y m d y' m' d' : Int} (h : IsDate y m d) (h' : IsDate y' m' d')
    (hl : y < y' ∨ (y = y' ∧ (m < m' ∨ (m = m' ∧ d < d')))) : dayNumber y m d < dayNumber y' m' d' := by
  rcases hl with hl | ⟨rfl, hl | ⟨rfl, hl⟩⟩
  · have := (in_year h).2
    have := (jan1_le_iff h' (y + 1)).2 (by omega)
    omega
  · have := dbm_lt y m m' h.1 hl h'.2.1
    have := h.2.2.2
    have := h'.2.2.1
    unfold dayNumber; omega
  · unfold dayNumber; omega

theorem dn_lt_iff {y m d y' m' d' : Int} (h : IsDate y m d) (h' : IsDate y' m' d') :
    dayNumber y m d < dayNumber y' m' d' ↔ (y < y' ∨ (y = y' ∧ (m < m' ∨ (m = m' ∧ d < d')))) := by
  refine ⟨fun hlt => Decidable.byContradiction fun hc => ?_, dn_lt_of_lex h h'⟩
  by_cases e : y = y' ∧ m = m' ∧ d = d'
  · obtain ⟨rfl, rfl, rfl⟩ := e; omega
  · have := dn_lt_of_lex h' h (by omega); omega

theorem dn_le_iff {y m d y' m' d' : Int} (h : IsDate y m d) (h' : IsDate y' m' d') :
    dayNumber y m d ≤ dayNumber y' m' d' ↔ (y < y' ∨ (y = y' ∧ (m < m' ∨ (m = m' ∧ d ≤ d')))) := by
  have := dn_lt_iff h' h
  omega

theorem dayNumber_inj {y m d y' m' d' : Int} (h : IsDate y m d) (h' : IsDate y' m' d')
    (e : dayNumber y m d = dayNumber y' m' d') : y = y' ∧ m = m' ∧ d = d' := by
  have := dn_le_iff h h'
  have := dn_le_iff h' h
  omega

theorem lexLt_asymm (a b : Int × Int × Int) (h : lexLt a b) : ¬ lexLt b a := by
  obtain ⟨y, m, d⟩ := a
  obtain ⟨y', m', d'⟩ := b
  unfold lexLt at *
  simp only at *
  omega

/-! ### The calendar repeats every 400 years -/

theorem isLeap_shift (y k : Int) : isLeap (y - 400 * k) = isLeap y := by
  unfold isLeap
  have h4 : (y - 400 * k) % 4 = y % 4 := by omega
  have h100 : (y - 400 * k) % 100 = y % 100 := by omega
  have h400 : (y - 400 * k) % 400 = y % 400 := by omega
  rw [h4, h100, h400]

theorem shift (y m d k : Int) (h : IsDate y m d) :
    IsDate (y - 400 * k) m d ∧ dayNumber (y - 400 * k) m d = dayNumber y m d - 146097 * k := by
  constructor
  · unfold IsDate dim at *; rw [isLeap_shift]; exact h
  · unfold dayNumber daysBeforeMonth; rw [isLeap_shift]
    unfold daysBeforeYear; omega

end Cal

open Cal

theorem dayNumber_range (y m d : Int) (h : ValidYMD y m d) :
    -719162 ≤ dayNumber y m d ∧ dayNumber y m d ≤ 2932896 :=
  ⟨(min_le_iff h.2.2).2 h.1, (le_max_iff h.2.2).2 h.2.1⟩

theorem dim_le31 (y m d : Int) (dd : d ≤ dim y m) : d ≤ 31 := Int.le_trans dd (dim_range y m).2

theorem doy_range (y m d : Int) (h : IsDate y m d) : 1 ≤ daysBeforeMonth y m + d ∧ daysBeforeMonth y m + d ≤ 366 := by
  obtain ⟨m1, m12, d1, dd⟩ := h
  have h0 := dbm_nonneg y m ⟨m1, m12⟩
  have h1 := dbm_dim_le y m ⟨m1, m12⟩
  have hl := leapI_spec y
  omega

theorem dayNumber_nextDay (y m d : Int) (h : IsDate y m d) :
    dayNumber (nextDay (y, m, d)).1 (nextDay (y, m, d)).2.1 (nextDay (y, m, d)).2.2 = dayNumber y m d + 1 := by
  obtain ⟨h1, h2, h3, h4⟩ := h
  unfold nextDay
  simp only []
  split
  · show dayNumber y m (d + 1) = _
    rw [dn_day y m (d + 1), dn_day y m d]; omega
  · split
    · show dayNumber y (m + 1) 1 = _
      rw [month_succ y m ⟨h1, by omega⟩, dn_day y m d]; omega
    · show dayNumber (y + 1) 1 1 = _
      have := month_table y m ⟨h1, h2⟩
      rw [jan1_succ, dayNumber_jan]
      unfold dayNumber; omega

theorem nextDay_isDate (y m d : Int) (h : IsDate y m d) :
    IsDate (nextDay (y, m, d)).1 (nextDay (y, m, d)).2.1 (nextDay (y, m, d)).2.2 := by
  obtain ⟨h1, h2, h3, h4⟩ := h
  unfold nextDay
  simp only []
  split
  · exact (⟨h1, h2, by omega, by omega⟩ : IsDate y m (d + 1))
  · split
    · exact isDate_first y (m + 1) (by omega)
    · exact isDate_first (y + 1) 1 (by omega)

/-- Walk along `nextDay` from 1970-01-01, then go back by whole 400-year periods. -/
theorem exists_date (n : Int) : ∃ y m d, IsDate y m d ∧ dayNumber y m d = n := by
  have nat (k : Nat) : ∃ y m d, IsDate y m d ∧ dayNumber y m d = (k : Int) := by
    induction k with
    | zero => exact ⟨1970, 1, 1, by decide, by decide⟩
    | succ k ih =>
      obtain ⟨y, m, d, h, e⟩ := ih
      exact ⟨_, _, _, nextDay_isDate y m d h, by rw [dayNumber_nextDay y m d h, e]; omega⟩
  obtain ⟨y, m, d, h, e⟩ := nat (n + 146097 * (-n).toNat).toNat
  obtain ⟨h', e'⟩ := shift y m d (-n).toNat h
  exact ⟨_, m, d, h', by rw [e', e]; omega⟩

theorem isLeapYear_eq (y : Int) : isLeapYear y = isLeap y := by
  unfold isLeapYear isLeap
  simp only [bne, Bool.beq_eq_decide_eq, rrem_eq_zero]

theorem daysOfMonth_table (y m : Int) (hm : 1 ≤ m ∧ m ≤ 12) :
    daysOfMonth y m =
      if m = 2 then (if isLeapYear y then 29 else 28)
      else if m = 4 ∨ m = 6 ∨ m = 9 ∨ m = 11 then 30 else 31 := by
  unfold daysOfMonth
  cases isLeapYear y <;> rcases months12 m hm with h | h | h | h | h | h | h | h | h | h | h | h <;> subst h <;> decide

theorem daysOfMonth_eq (y m : Int) (hm : 1 ≤ m ∧ m ≤ 12) : daysOfMonth y m = dim y m := by
  rw [daysOfMonth_table y m hm, isLeapYear_eq y]; rfl

theorem sumOfDays_row (y : Int) :
    idxD SUM_OF_DAYS_TABLE (boolToInt (isLeap y)) [] =
      (List.range 12).map (fun (k : Nat) => daysBeforeMonth y ((k : Int) + 1)) := by
  unfold daysBeforeMonth
  generalize isLeap y = leap
  cases leap <;> decide

theorem theDayOfYear_eq (y m d : Int) (hm : 1 ≤ m ∧ m ≤ 12) :
    theDayOfYear y m d = daysBeforeMonth y m + d := by
  obtain ⟨k, rfl⟩ : ∃ k : Nat, m = k + 1 := ⟨(m - 1).toNat, by omega⟩
  have hk : k < 12 := by omega
  rw [theDayOfYear, isLeapYear_eq y, sumOfDays_row, idxD, if_neg (by omega)]
  simp [hk]

namespace Cal

/-- The number of months of year `y` that begin before its ordinal day `n`. -/
def monthsBefore (y n : Int) : Nat :=
  ((List.range 12).filter (fun (k : Nat) => daysBeforeMonth y ((k : Int) + 1) < n)).length

theorem length_filter_lt_range (c : Nat) : ∀ (N : Nat), c ≤ N →
    ((List.range N).filter (fun k => decide (k < c))).length = c
  | 0, h => by simp; omega
  | N + 1, h => by
    rw [List.range_succ, List.filter_append, List.length_append]
    by_cases hc : c ≤ N
    · rw [length_filter_lt_range c N hc]; simp; omega
    · have : c = N + 1 := by omega
      subst this
      rw [List.filter_eq_self.2 (fun k hk => by simpa using Nat.lt_succ_of_lt (List.mem_range.1 hk))]
      simp

/-- The months that begin before day `n` are exactly the months up to the one that contains it, because
    `daysBeforeMonth` grows by a whole month at each step. -/
theorem monthsBefore_eq (y n m : Int) (hm : 1 ≤ m ∧ m ≤ 12) (h1 : daysBeforeMonth y m < n)
    (h2 : n ≤ daysBeforeMonth y m + dim y m) : (monthsBefore y n : Int) = m := by
  have hd := dim_range y m
  have key : (List.range 12).filter (fun (k : Nat) => decide (daysBeforeMonth y ((k : Int) + 1) < n)) =
      (List.range 12).filter (fun k => decide (k < m.toNat)) := by
    apply List.filter_congr
    intro k hk
    have hk12 : k < 12 := List.mem_range.1 hk
    rw [decide_eq_decide]
    constructor
    · intro h
      by_cases hc : k < m.toNat
      · exact hc
      · have := dbm_lt y m ((k : Int) + 1) hm.1 (by omega) (by omega)
        omega
    · intro h
      by_cases e : (k : Int) + 1 = m
      · rw [e]; exact h1
      · have := dbm_lt y ((k : Int) + 1) m (by omega) (by omega) hm.2
        have := dim_range y ((k : Int) + 1)
        omega
  unfold monthsBefore
  rw [key, length_filter_lt_range _ 12 (by omega)]
  omega

/-- The crate's day-of-year decoding: its binary search in the cumulative table (modelled as "number of entries
    below `n`") counts the months that begin before day `n`. -/
theorem theMonthDayOfDays_eq (y n : Int) (h1 : 1 ≤ n) :
    theMonthDayOfDays n (isLeap y) = .ok ((monthsBefore y n : Int), n - daysBeforeMonth y (monthsBefore y n)) := by
  have hpos : 1 ≤ monthsBefore y n :=
    List.length_pos_iff_exists_mem.2 ⟨0, List.mem_filter.2 ⟨by simp, by simp [daysBeforeMonth]; omega⟩⟩
  have hle : monthsBefore y n ≤ 12 := by
    have := List.length_filter_le (fun (k : Nat) => decide (daysBeforeMonth y ((k : Int) + 1) < n)) (List.range 12)
    rwa [List.length_range] at this
  have hc : (monthsBefore y n : Int) = ((monthsBefore y n - 1 : Nat) : Int) + 1 := by omega
  unfold theMonthDayOfDays binarySearch
  simp only [sumOfDays_row, List.filter_map, List.length_map, Function.comp_def, bind, Except.bind, pure, Except.pure,
    Int.ofNat_eq_natCast]
  rw [show ((List.range 12).filter (fun (k : Nat) => decide (daysBeforeMonth y ((k : Int) + 1) < n))).length =
      monthsBefore y n from rfl,
    idx_eq_ok (by omega) (by rw [List.length_map, List.length_range]; omega)]
  simp only [List.getElem_map, List.getElem_range]
  rw [show (((monthsBefore y n : Int) - 1).toNat : Int) + 1 = (monthsBefore y n : Int) by omega]

theorem theMonthDayOfDays_ok (n : Int) (leap : Bool) (h1 : 1 ≤ n) : ∃ v, theMonthDayOfDays n leap = .ok v := by
  cases leap  -- years 1 and 4 stand for the common and the leap year (`isLeap` evaluates on them)
  · exact ⟨_, theMonthDayOfDays_eq 1 n h1⟩
  · exact ⟨_, theMonthDayOfDays_eq 4 n h1⟩

/-- `date2julian` with Rust's truncating `/` replaced by `/` (all dividends are non-negative from year −4799 on). -/
theorem date2julian_nonneg (y m d : Int) (hy : -4799 ≤ y) (hm : 1 ≤ m ∧ m ≤ 12) :
    date2julian y m d =
      (if m > 2 then
        (y + 4800) * 365 - 32167 + ((y + 4800) / 4 - (y + 4800) / 100 + (y + 4800) / 100 / 4) + (7834 * (m + 1) / 256 + d)
      else
        (y + 4799) * 365 - 32167 + ((y + 4799) / 4 - (y + 4799) / 100 + (y + 4799) / 100 / 4) + (7834 * (m + 13) / 256 + d)) := by
  unfold date2julian
  by_cases h : m > 2
  · simp only [h, ↓reduceIte]
    rw [rdiv_nonneg_eq (show (0:Int) ≤ y + 4800 by omega), rdiv_nonneg_eq (show (0:Int) ≤ y + 4800 by omega),
      rdiv_nonneg_eq (show (0:Int) ≤ (y + 4800) / 100 by omega), rdiv_nonneg_eq (show (0:Int) ≤ 7834 * (m + 1) by omega)]
  · simp only [h, ↓reduceIte]
    rw [rdiv_nonneg_eq (show (0:Int) ≤ y + 4799 by omega), rdiv_nonneg_eq (show (0:Int) ≤ y + 4799 by omega),
      rdiv_nonneg_eq (show (0:Int) ≤ (y + 4799) / 100 by omega), rdiv_nonneg_eq (show (0:Int) ≤ 7834 * (m + 13) by omega)]

/-- The month term of `date2julian` is the month table, counted from 1 March (January and February as months 13 and
    14 of the year before). -/
theorem month_term (y m : Int) (hm : 1 ≤ m ∧ m ≤ 12) :
    (m > 2 → 7834 * (m + 1) / 256 = daysBeforeMonth y m + 63 - leapI y) ∧
    (m ≤ 2 → 7834 * (m + 13) / 256 = daysBeforeMonth y m + 428) := by
  have := month_table y m hm
  omega

theorem date2julian_eq_dayNumber (y m d : Int) (hy : 0 ≤ y) (hm : 1 ≤ m ∧ m ≤ 12) :
    date2julian y m d = dayNumber y m d + 2440588 := by
  rw [date2julian_nonneg y m d (by omega) hm]
  have hk := month_term y m hm
  have hs := dby_succ y
  unfold dayNumber
  unfold daysBeforeYear at hs ⊢
  split
  · have := hk.1 ‹_›; omega
  · have := hk.2 (by omega); omega

/-! ### `julian2date` inverts the day number

  `date2julian` and `julian2date` count days in years that begin on 1 March, from 1 March of year −4800: day `t`
  (from 0) of the March-year `x` has number `365 x + ⌊x/4⌋ − ⌊x/100⌋ + ⌊x/400⌋ + t`.  `julian2date` undoes this in
  three stages: `stA'` puts back the 29 Februaries that century years lack, so that every fourth year is leap, and
  moves the origin to 1 January; division by 1461, then 365 or 366, finds the year and `t`; `stK` inverts the month
  term `⌊7834 k / 256⌋`.  Nothing is assumed about the sign of the year: `/` floors. -/
def stA' (a : Int) : Int := a + (60 + a / 146097 * 3 + ((a - a / 146097 * 146097) * 4 + 3) / 146097)
def stY (r : Int) : Int := r * 4 / 1461
def stC (r : Int) : Int := if stY r ≠ 0 then (r + 305) % 365 + 123 else (r + 306) % 366 + 123
def stK (c : Int) : Int := c * 2141 / 65536

theorem julian2date_stages (j : Int) :
    julian2date j =
      (stY (stA' (j + 32044) - stA' (j + 32044) / 1461 * 1461) + stA' (j + 32044) / 1461 * 4 - 4800,
       (stK (stC (stA' (j + 32044) - stA' (j + 32044) / 1461 * 1461)) + 10) % 12 + 1,
       stC (stA' (j + 32044) - stA' (j + 32044) / 1461 * 1461) -
         7834 * stK (stC (stA' (j + 32044) - stA' (j + 32044) / 1461 * 1461)) / 256) := rfl

/-- Stage 1, in year `400 Q + 100 C + v` of the 400-year cycle; day 365 of a March-year is 29 February. -/
theorem stA'_eq (Q C v t : Int) (hC : 0 ≤ C ∧ C ≤ 3) (hv : 0 ≤ v ∧ v ≤ 99) (ht : 0 ≤ t ∧ t ≤ 365)
    (hl : t = 365 → v = 99 → C = 3) :
    stA' (146097 * Q + 36524 * C + 365 * v + v / 4 + t) = 146100 * Q + 36525 * C + 365 * v + v / 4 + t + 60 := by
  unfold stA'
  have hp : 0 ≤ v / 4 ∧ v / 4 ≤ 24 := by omega
  generalize v / 4 = p at *
  have h1 : (146097 * Q + 36524 * C + 365 * v + p + t) / 146097 = Q := by omega
  have h2 : ((146097 * Q + 36524 * C + 365 * v + p + t - Q * 146097) * 4 + 3) / 146097 = C := by omega
  rw [h1, h2]; omega

/-- Stage 2, in year `4 P + u` of the 4-year cycle: the year (January-based again) and the day `t` come back.
    The cases are January and February of the leap year `4 (P + 1)`, of another year, and March to December. -/
theorem stY_stC_eq (P u t : Int) (hu : 0 ≤ u ∧ u ≤ 3) (ht : 0 ≤ t ∧ t ≤ 365) (hl : t = 365 → u = 3)
    (b : Int) (hb : b = 1461 * P + 365 * u + t + 60) :
    stY (b - b / 1461 * 1461) + b / 1461 * 4 = 4 * P + u + (if 306 ≤ t then 1 else 0) ∧
    stC (b - b / 1461 * 1461) = t + 123 := by
  unfold stC
  by_cases hw : 306 ≤ t
  · rw [if_pos hw]
    by_cases h3 : u = 3
    · have hq : b / 1461 = P + 1 := by omega
      have hy : stY (b - b / 1461 * 1461) = 0 := by unfold stY; omega
      rw [hy, hq, if_neg (by omega)]; omega
    · have hq : b / 1461 = P := by omega
      have hy : stY (b - b / 1461 * 1461) = u + 1 := by unfold stY; omega
      rw [hy, hq, if_pos (by omega)]; omega
  · rw [if_neg hw]
    have hq : b / 1461 = P := by omega
    have hy : stY (b - b / 1461 * 1461) = u := by unfold stY; omega
    rw [hy, hq]
    split <;> omega

/-- Day `t` (from 0) of the year that begins on 1 March of year `z`. -/
theorem julian2date_march (z t : Int) (ht : 0 ≤ t ∧ t ≤ 365) (hl : t = 365 → leapI (z + 1) = 1) :
    julian2date (daysBeforeYear (z + 1) + t + 1721120) =
      (z + (if 306 ≤ t then 1 else 0), (stK (t + 123) + 10) % 12 + 1, t + 123 - 7834 * stK (t + 123) / 256) := by
  rw [julian2date_stages]
  have hz := leapI_spec (z + 1)
  have ea : daysBeforeYear (z + 1) + t + 1721120 + 32044 =
      146097 * (z / 400 + 12) + 36524 * (z % 400 / 100) + 365 * (z % 100) + z % 100 / 4 + t := by
    unfold daysBeforeYear; omega
  rw [ea, stA'_eq _ _ _ _ (by omega) (by omega) ht (by omega)]
  obtain ⟨h1, h2⟩ := stY_stC_eq (z / 4 + 1200) (z % 4) t (by omega) ht (by omega) _
    (by omega : 146100 * (z / 400 + 12) + 36525 * (z % 400 / 100) + 365 * (z % 100) + z % 100 / 4 + t + 60 =
      1461 * (z / 4 + 1200) + 365 * (z % 4) + t + 60)
  rw [h1, h2]
  simp only [Prod.mk.injEq, and_true]; omega

/-- `stK` inverts the month term on the days of the month (`k` is `m + 1`, or `m + 13` for January and February). -/
theorem stK_month (y m d : Int) (h : IsDate y m d) :
    (m > 2 → stK (7834 * (m + 1) / 256 + d) = m + 1 ∧ 7834 * (m + 1) / 256 + d ≤ 428) ∧
    (m ≤ 2 → stK (7834 * (m + 13) / 256 + d) = m + 13 ∧ 7834 * (m + 13) / 256 + d ≤ 487 + leapI y) := by
  obtain ⟨h1, h2, h3, h4⟩ := h
  have hl := leapI_spec y
  have := month_table y m ⟨h1, h2⟩
  unfold stK
  omega

theorem julian2date_dayNumber (y m d : Int) (h : IsDate y m d) :
    julian2date (dayNumber y m d + 2440588) = (y, m, d) := by
  have hl := leapI_spec y
  have hd := h.2.2.1
  have hn := dbm_nonneg y m ⟨h.1, h.2.1⟩
  unfold dayNumber
  by_cases hm : m > 2
  · have e1 := (month_term y m ⟨h.1, h.2.1⟩).1 hm
    obtain ⟨e2, e3⟩ := (stK_month y m d h).1 hm
    have ea : daysBeforeYear y + daysBeforeMonth y m + d - 719163 + 2440588 =
        daysBeforeYear (y + 1) + (7834 * (m + 1) / 256 + d - 123) + 1721120 := by rw [dby_succ]; omega
    rw [ea, julian2date_march y _ (by omega) (by omega), Int.sub_add_cancel, e2, if_neg (by omega)]
    simp only [Prod.mk.injEq]; omega
  · have e1 := (month_term y m ⟨h.1, h.2.1⟩).2 (by omega)
    obtain ⟨e2, e3⟩ := (stK_month y m d h).2 (by omega)
    have ea : daysBeforeYear y + daysBeforeMonth y m + d - 719163 + 2440588 =
        daysBeforeYear (y - 1 + 1) + (7834 * (m + 13) / 256 + d - 123) + 1721120 := by
      rw [Int.sub_add_cancel]; omega
    rw [ea, julian2date_march (y - 1) _ (by omega) (by rw [Int.sub_add_cancel]; omega), Int.sub_add_cancel, e2,
      if_pos (by omega)]
    simp only [Prod.mk.injEq]; omega

end Cal

theorem fromYmd_eq_dayNumber (y m d : Int) (hy : 0 ≤ y) (hm : 1 ≤ m ∧ m ≤ 12) :
    Date.fromYmdUnchecked y m d = dayNumber y m d := by
  unfold Date.fromYmdUnchecked
  rw [UNIX_EPOCH_JULIAN_eq, date2julian_eq_dayNumber y m d hy hm]; omega

theorem extract_dayNumber (y m d : Int) (h : IsDate y m d) : Date.extract (dayNumber y m d) = (y, m, d) := by
  unfold Date.extract; rw [UNIX_EPOCH_JULIAN_eq, julian2date_dayNumber y m d h]

theorem date_decompose (d : Int) (hd : isValidDate d) : ∃ y m dd, ValidYMD y m dd ∧ dayNumber y m dd = d := by
  obtain ⟨y, m, dd, h, rfl⟩ := exists_date d
  exact ⟨y, m, dd, validYMD_of_range y m dd h ((isValidDate_iff _).1 hd), rfl⟩

theorem extract_roundtrip (j : Int) (hj : isValidDate j) :
    ValidYMD (Date.extract j).1 (Date.extract j).2.1 (Date.extract j).2.2 ∧
    Date.fromYmdUnchecked (Date.extract j).1 (Date.extract j).2.1 (Date.extract j).2.2 = j := by
  obtain ⟨y, m, d, hv, rfl⟩ := date_decompose j hj
  rw [extract_dayNumber y m d hv.2.2]
  exact ⟨hv, fromYmd_eq_dayNumber y m d (by have := hv.1; omega) ⟨hv.2.2.1, hv.2.2.2.1⟩⟩

theorem extract_fromYmd (y m d : Int) (h : ValidYMD y m d) :
    isValidDate (Date.fromYmdUnchecked y m d) ∧ Date.extract (Date.fromYmdUnchecked y m d) = (y, m, d) := by
  rw [fromYmd_eq_dayNumber y m d (by have := h.1; omega) ⟨h.2.2.1, h.2.2.2.1⟩,
    isValidDate_iff]
  exact ⟨dayNumber_range y m d h, extract_dayNumber y m d h.2.2⟩

theorem extract_succ (j : Int) (hj : isValidDate j) (hj1 : isValidDate (j + 1)) :
    Date.extract (j + 1) = nextDay (Date.extract j) := by
  obtain ⟨y, m, d, hd, rfl⟩ := exists_date j
  rw [← dayNumber_nextDay y m d hd, extract_dayNumber _ _ _ (nextDay_isDate y m d hd), extract_dayNumber y m d hd]

end SqlDt.Lemmas
