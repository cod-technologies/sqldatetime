/-
  Lemmas/ParseStep: what any field does to the parser's state, whatever the text.  `parseField_post` is a postcondition
  (`Chk.Post`): on success the state moves by a `Step`, and the error is a parse error (a panic only for a field no
  compiled picture contains); no-panic, clock independence and the validity of parsed values rest on it.  ReadingClauses
  walks `parseField` a second time, for what a postcondition cannot give: the exact state each clause stores.
  Before that: a field whose slot is filled is rejected (`parseField_filled`).
-/
import SqlDt.Model.Parse
import SqlDt.Lemmas.Basic
namespace SqlDt.Lemmas
open SqlDt Gen Parser Chk

theorem post_perr {α} {Q : α → Prop} {E : Err → Prop} (hE : E .ParseError) : Post (perr : Chk α) Q E := hE

theorem foldl_digits_nonneg : ∀ (ds : Bytes) (acc : Int), 0 ≤ acc → (∀ d ∈ ds, isDigitB d = true) →
    0 ≤ ds.foldl (fun acc d => acc * 10 + (Int.ofNat d - 48)) acc := by
  intro ds
  induction ds with
  | nil => intro acc h _; simpa using h
  | cons d ds ih =>
    intro acc h hd
    simp only [List.foldl_cons]
    apply ih
    · have := hd d (by simp)
      simp [isDigitB] at this
      have : (0:Int) ≤ Int.ofNat d - 48 := by simp; omega
      have h10 : 0 ≤ acc * 10 := by omega
      omega
    · intro x hx; exact hd x (by simp [hx])

theorem eatDigits_fst (s : Bytes) (k : Nat) : (eatDigits s k).1 = (s.take k).takeWhile isDigitB :=
  (List.prefix_iff_eq_take.1 ((List.takeWhile_prefix _).trans (List.take_prefix k s))).symm

theorem eatDigits_all (s : Bytes) (k : Nat) : ∀ d ∈ (eatDigits s k).1, isDigitB d = true := by
  rw [eatDigits_fst]; exact fun d hd => List.all_eq_true.1 List.all_takeWhile d hd

theorem eatDigits_len (s : Bytes) (k : Nat) : (eatDigits s k).1.length ≤ k := by
  rw [eatDigits_fst]; exact Nat.le_trans (List.takeWhile_prefix _).length_le (List.length_take_le k s)

section
variable {E : Err → Prop} (hE : E .ParseError)
include hE

theorem parseNumber_post (s : Bytes) (k : Nat) : Post (parseNumber s k) (fun r => r.1 = false → 0 ≤ r.2.1) E := by
  have key : ∀ (neg : Bool) (t : Bytes), Post (α := Bool × Int × Bytes)
      (if (eatDigits t k).1.isEmpty = true then perr
       else .ok (neg, (if neg = true then -foldDigits (eatDigits t k).1 else foldDigits (eatDigits t k).1), (eatDigits t k).2))
      (fun r => r.1 = false → 0 ≤ r.2.1) E := by
    intro neg t
    split
    · exact post_perr hE
    · rintro (rfl : neg = false)
      exact foldl_digits_nonneg _ 0 (Int.le_refl 0) (eatDigits_all _ _)
  unfold parseNumber
  split
  · exact post_perr hE
  · dsimp only
    split
    · exact key _ _
    · split <;> exact key _ _

theorem expectNumber_post (st : St) (k : Nat) :
    Post (expectNumber st k) (fun r => (r.2.1 = false → 0 ≤ r.1) ∧ ∃ s, r.2.2 = { st with s := s }) E := by
  unfold expectNumber
  refine (parseNumber_post hE st.s k).bind ?_
  rintro ⟨neg, n, rem⟩ h
  exact Post.pure ⟨h, rem, rfl⟩

theorem expectNumberTol_post (st : St) (k : Nat) (d : Int) :
    Post (expectNumberTol st k d) (fun r => (r.2.1 = false → 0 ≤ r.1) ∧ ∃ s, r.2.2 = { st with s := s }) E := by
  unfold expectNumberTol
  split
  · exact Post.ok ⟨by simp, st.s, rfl⟩
  · exact expectNumber_post hE st k

theorem expectChar_post (st : St) (ch : Nat) (t : Bool) :
    Post (expectChar st ch t) (fun st' => ∃ s, st' = { st with s := s }) E := by
  unfold expectChar
  split
  · split
    · exact Post.ok ⟨_, rfl⟩
    · exact post_perr hE
  · split
    · exact Post.ok ⟨_, rfl⟩
    · exact post_perr hE

/-- The year modifiers are looked up at index 0 or 2 only. -/
theorem parseYear_post (s : Bytes) (n : Nat) (c : Clock) : Post (parseYear s n c) (fun _ => True) E := by
  unfold parseYear
  split
  · exact (parseNumber_post hE s 4).bind fun r _ => Post.ite (Post.pure trivial) (Post.pure trivial)
  · split
    · rename_i h13
      refine (parseNumber_post hE s n).bind fun r _ => ?_
      refine (idx_post _ _ fun h => absurd ?_ h).bind fun _ _ => Post.pure trivial
      rcases h13 with rfl | rfl <;> decide
    · exact (parseNumber_post hE s n).bind fun r _ => Post.pure trivial

theorem parseMonthName_post (s : Bytes) : Post (parseMonthName s) (fun r => 0 ≤ r.1) E := by
  unfold parseMonthName
  split
  · exact Post.ok (Int.natCast_nonneg _)
  · split
    · exact Post.ok (Int.natCast_nonneg _)
    · exact post_perr hE

theorem parseAmPm_post (s : Bytes) (sty : AmPmStyle) : Post (parseAmPm s sty) (fun _ => True) E := by
  unfold parseAmPm
  refine .ite (.ok trivial) ?_
  split <;> exact .ite (.ok trivial) (.ite (.ok trivial) (post_perr hE))

theorem parseWeekDayName_post (s : Bytes) (sty : NameStyle) : Post (parseWeekDayName s sty) (fun _ => True) E := by
  unfold parseWeekDayName
  dsimp only
  split
  · exact .ok trivial
  · exact post_perr hE

theorem parseWeekDayNumber_post (s : Bytes) : Post (parseWeekDayNumber s) (fun _ => True) E := by
  unfold parseWeekDayNumber
  split
  · exact post_perr hE
  · exact .ite (.ok trivial) (post_perr hE)

/-- The fraction factor table has ten entries: nine digits or fewer never index outside it. -/
theorem parseFraction_post (s : Bytes) (k : Nat) (hP : 9 < k → E .Panic) :
    Post (parseFraction s k) (fun _ => True) E := by
  unfold parseFraction
  split
  · exact Post.ok trivial
  · rename_i ch t
    refine Post.ite (post_perr hE) ?_
    have hl := eatDigits_len (ch :: t) k
    generalize eatDigits (ch :: t) k = r at hl ⊢
    refine (idx_post _ _ fun h => hP ?_).bind fun _ _ => Post.pure trivial
    simp [FRACTION_FACTOR_BITS] at h
    omega

end

/-- The shape of most branches of `parseField`: the code applies only under `c`, and fails when `d` holds (its slot is
    already filled, or it clashes with what was read before). -/
theorem guarded_perr {α} {c d : Prop} [Decidable c] [Decidable d] (hd : d) (x : Chk α) :
    (if c then (if d then perr else x) else perr) = .error .ParseError := by
  rw [if_pos hd]; split <;> rfl

theorem guarded_perr₂ {α} {c d e : Prop} [Decidable c] [Decidable d] [Decidable e] (he : e) (x : Chk α) :
    (if c then (if d then perr else if e then perr else x) else perr) = .error .ParseError := by
  rw [if_pos he]; split
  · split <;> rfl
  · rfl

/-- The slot the field would fill is filled already; for the two hour fields and the meridian: or what was read
    excludes the field. -/
def filled (st : St) : Field → Bool
  | .Year _ => st.isYearSet
  | .Month | .MonthName _ => st.isMonthSet
  | .Day => st.isDaySet
  | .Hour24 => st.isHour24Set.isSome || st.isAmPmSet
  | .Hour12 => st.isHour24Set.isSome
  | .Minute => st.isMinSet
  | .Second => st.isSecSet
  | .Fraction _ => st.isFractionSet
  | .AmPm _ => st.isAmPmSet || st.isHour24Set == some true
  | .DayName _ | .DayOfWeek => st.dow.isSome
  | .DayOfYear => st.doy.isSome
  | _ => false

theorem parseField_filled {ty : Ty} {now : Clock} {st : St} {f : Field} (h : filled st f = true) :
    parseField ty now st f = .error .ParseError := by
  cases f <;> simp only [filled, Bool.or_eq_true, beq_iff_eq, Bool.false_eq_true] at h
  case Hour24 => exact h.elim (fun h => guarded_perr h _) fun h => guarded_perr₂ h _
  case AmPm => exact h.elim (fun h => guarded_perr h _) fun h => guarded_perr₂ h _
  all_goals exact guarded_perr h _

/-- The parser's invariant: the slots that are stored without a sign are not negative. -/
structure NonNeg (st : St) : Prop where
  month : 0 ≤ st.dt.month
  doy : ∀ d, st.doy = some d → 0 ≤ d

theorem nonNeg_initSt (ty : Ty) (input : Bytes) : NonNeg (initSt ty input) := by
  refine ⟨?_, fun d hd => by cases hd⟩
  show 0 ≤ (initNDT ty).month
  unfold initNDT
  split
  · exact Int.le_refl 0
  · split <;> exact Int.le_refl 0

def Field.isYear : Field → Bool
  | .Year _ => true
  | _ => false

def Field.isMonth : Field → Bool
  | .Month | .MonthName _ => true
  | _ => false

/-- What successfully parsed fields do to the state, as far as the rest of the parser depends on it: the invariant is
    kept, and the year and month flags are set by year fields (`y`) and month fields (`m`) and by nothing else. -/
structure Step (y m : Bool) (st st' : St) : Prop where
  nonNeg : NonNeg st → NonNeg st'
  yearSet : st'.isYearSet = (st.isYearSet || y)
  monthSet : st'.isMonthSet = (st.isMonthSet || m)

theorem adjustHour12_month (dt : NDT) : dt.adjustHour12.month = dt.month := by
  unfold NDT.adjustHour12; split <;> rfl

theorem Step.frame {st st' : St} (hm : st'.dt.month = st.dt.month) (hd : st'.doy = st.doy)
    (hy : st'.isYearSet = st.isYearSet) (hmo : st'.isMonthSet = st.isMonthSet) : Step false false st st' :=
  ⟨fun h => ⟨hm ▸ h.1, hd ▸ h.2⟩, by rw [hy, Bool.or_false], by rw [hmo, Bool.or_false]⟩

theorem Step.trans {y m y' m' : Bool} {a b c : St} (h : Step y m a b) (h' : Step y' m' b c) :
    Step (y || y') (m || m') a c :=
  ⟨fun hn => h'.nonNeg (h.nonNeg hn), by rw [h'.yearSet, h.yearSet, Bool.or_assoc],
    by rw [h'.monthSet, h.monthSet, Bool.or_assoc]⟩

/-- A field panics only if it is `Invalid` or a fraction of more than nine digits, which no compiled picture contains. -/
def Field.Panics : Field → Prop
  | .Invalid => True
  | .Fraction (some p) => 9 < p
  | _ => False

theorem parseField_post {E : Err → Prop} (hE : E .ParseError) (ty : Ty) (c : Clock) (st : St) (f : Field)
    (hP : Field.Panics f → E .Panic) :
    Post (parseField ty c st f) (Step (Field.isYear f) (Field.isMonth f) st) E := by
  have perr' : ∀ {α} {Q : α → Prop}, Post (perr : Chk α) Q E := post_perr hE
  cases f <;> simp only [parseField]
  case Invalid => exact Post.error (hP trivial)
  case Blank => exact Post.ok (.frame rfl rfl rfl rfl)
  case Hyphen | Colon | Slash | Backslash | Comma | Dot | Semicolon | T =>
    exact (expectChar_post hE _ _ _).mono (fun st' ⟨s, hs⟩ => hs ▸ .frame rfl rfl rfl rfl) fun _ => id
  case WeekOfMonth | WeekOfYear => exact perr'
  case Year n =>
    refine .ite (.ite perr' ((parseYear_post hE _ _ _).bind fun r _ => .ite perr' (Post.pure ?_))) perr'
    exact ⟨fun h => ⟨h.1, h.2⟩, (Bool.or_true _).symm, (Bool.or_false _).symm⟩
  case Month =>
    refine .ite (.ite perr' ?_) perr'
    cases hp : parseNumber (eatWhitespaces st.s) ty.info.MONTH_MAX_LENGTH with
    | ok r =>
      have hr := (parseNumber_post hE _ _).of_ok hp
      exact .ite_neg perr' fun hn =>
        Post.ok ⟨fun h => ⟨hr (by simpa using hn), h.2⟩, (Bool.or_false _).symm, (Bool.or_true _).symm⟩
    | error e =>
      exact (parseMonthName_post hE _).bind fun r hr =>
        Post.pure ⟨fun h => ⟨hr, h.2⟩, (Bool.or_false _).symm, (Bool.or_true _).symm⟩
  case MonthName sty =>
    exact .ite (.ite perr' ((parseMonthName_post hE _).bind fun r hr =>
      Post.pure ⟨fun h => ⟨hr, h.2⟩, (Bool.or_false _).symm, (Bool.or_true _).symm⟩)) perr'
  case Day =>
    refine .ite (.ite perr' ((expectNumber_post hE _ _).bind ?_)) perr'
    rintro ⟨v, neg, st1⟩ ⟨_, s1, rfl⟩
    exact .ite perr' (Post.pure (.frame rfl rfl rfl rfl))
  case Hour24 =>
    refine .ite (.ite perr' (.ite perr'
      (.ite ((expectNumber_post hE _ _).bind ?_) ((expectNumberTol_post hE _ _ _).bind ?_)))) perr'
    all_goals
      rintro ⟨v, neg, st1⟩ ⟨_, s1, rfl⟩
      exact .ite perr' (Post.pure (.frame rfl rfl rfl rfl))
  case Minute | Second =>
    refine .ite (.ite perr' (.ite ((expectNumber_post hE _ _).bind ?_) ((expectNumberTol_post hE _ _ _).bind ?_))) perr'
    all_goals
      rintro ⟨v, neg, st1⟩ ⟨_, s1, rfl⟩
      exact .ite perr' (Post.pure (.frame rfl rfl rfl rfl))
  case Hour12 =>
    refine .ite (.ite perr' ((expectNumberTol_post hE _ _ _).bind ?_)) perr'
    rintro ⟨v, neg, st1⟩ ⟨_, s1, rfl⟩
    exact .ite perr' (Post.pure (.frame (adjustHour12_month _) rfl rfl rfl))
  case DayOfYear =>
    refine .ite (.ite perr' ((expectNumber_post hE _ _).bind ?_)) perr'
    rintro ⟨v, neg, st1⟩ ⟨hv, s1, rfl⟩
    refine .ite_neg perr' fun hn => Post.pure ⟨fun h => ⟨h.1, ?_⟩, (Bool.or_false _).symm, (Bool.or_false _).symm⟩
    rintro d ⟨rfl⟩
    exact hv (by simpa using hn)
  case Fraction p =>
    refine .ite (.ite perr' ((parseFraction_post hE _ _ fun hp => hP ?_).bind fun r _ =>
      Post.pure (.frame rfl rfl rfl rfl))) perr'
    cases p with
    | none => exact absurd hp (by decide)
    | some q => exact hp
  case AmPm sty =>
    refine .ite (.ite perr' (.ite perr' ((parseAmPm_post hE _ _).bind fun r _ => Post.pure ?_))) perr'
    split
    · exact .frame (adjustHour12_month _) rfl rfl rfl
    · exact .frame rfl rfl rfl rfl
  case DayName sty =>
    exact .ite (.ite perr' ((parseWeekDayName_post hE _ _).bind fun r _ => Post.pure (.frame rfl rfl rfl rfl))) perr'
  case DayOfWeek =>
    exact .ite (.ite perr' ((parseWeekDayNumber_post hE _).bind fun r _ => Post.pure (.frame rfl rfl rfl rfl))) perr'

theorem parseFields_post {E : Err → Prop} (hE : E .ParseError) (ty : Ty) (c : Clock) :
    ∀ (fields : List Field) (st : St), (∀ f ∈ fields, Field.Panics f → E .Panic) →
      Post (parseFields ty c st fields) (Step (fields.any Field.isYear) (fields.any Field.isMonth) st) E
  | [], st, _ => Post.ok (.frame rfl rfl rfl rfl)
  | f :: fs, st, hP => by
    unfold parseFields
    refine (parseField_post hE ty c st f (hP f (List.mem_cons_self ..))).bind fun st1 h1 => ?_
    rw [List.any_cons, List.any_cons]
    exact (parseFields_post hE ty c fs st1 fun g hg => hP g (List.mem_cons_of_mem _ hg)).mono
      (fun _ h => h1.trans h) fun _ => id

end SqlDt.Lemmas
