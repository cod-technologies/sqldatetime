/-
  Lemmas/ReadingClauses: the clauses of `parseField` as exact equations – from ANY state that passes the clause's guards,
  given the text `t` left once the blanks are eaten and what the clause's leaf parser returns on `t`, the clause fails or
  stores exactly this.  Nothing here looks at the text itself.  ParseStep's `parseField_post` walks the same clauses for
  a postcondition that holds whatever the text; ReadingStep rewrites with these equations, which a postcondition cannot
  give.  First: a token that does not apply to the type is rejected from any state.
-/
import SqlDt.Spec.Reading
import SqlDt.Lemmas.ParseStep
namespace SqlDt.Lemmas
open SqlDt Gen Spec Parser

theorem info_hasDate (ty : Ty) : ty.info.HAS_DATE = hasDate ty := by cases ty <;> rfl
theorem info_hasTime (ty : Ty) : ty.info.HAS_TIME = hasTime ty := by cases ty <;> rfl
theorem info_hasFraction (ty : Ty) : ty.info.HAS_FRACTION = hasFraction ty := by cases ty <;> rfl
theorem info_ym (ty : Ty) : ty.info.IS_INTERVAL_YM = decide (ty = .YM) := by cases ty <;> rfl
theorem info_dt (ty : Ty) : ty.info.IS_INTERVAL_DT = decide (ty = .DT) := by cases ty <;> rfl
theorem clock12_eq (ty : Ty) : clock12 ty = (hasTime ty && !decide (ty = .DT)) := by cases ty <;> rfl

section
variable (ty : Ty) (now : Clock) (st0 : St)

/-- `Invalid`, which no compiled picture contains, is the one inapplicable field that panics instead. -/
theorem parseField_inapplicable {f : Field} (h : applicable ty f = false) (hf : f ≠ .Invalid) :
    parseField ty now st0 f = .error .ParseError := by
  cases f <;> simp only [applicable, Bool.true_eq_false] at h
  case Invalid => exact absurd rfl hf
  case WeekOfMonth | WeekOfYear => rfl
  all_goals
    simp only [parseField, info_hasDate, info_hasTime, info_hasFraction, info_ym, info_dt, ← clock12_eq, h,
      Bool.false_eq_true, ↓reduceIte]
    rfl

variable {t rest : Bytes} (hs : eatWhitespaces st0.s = t)
include hs

section
variable {neg : Bool} {v : Int}

theorem parseField_year {w : Nat} {rd : Bool} (hty : (ty.info.HAS_DATE || ty.info.IS_INTERVAL_YM) = true)
    (hset : st0.isYearSet = false)
    (hp : parseYear t (if ty.info.IS_INTERVAL_YM then ty.info.YEAR_MAX_LENGTH else w) now =
      .ok (neg, v, rest, rd)) :
    parseField ty now st0 (.Year w) =
      if (neg && ty.info.HAS_DATE) = true then .error .ParseError
      else .ok { st0 with reads := if rd then 1 else st0.reads, dt := { st0.dt with negative := neg, year := v },
                          s := rest, isYearSet := true } := by
  simp only [parseField, hs, hty, hset, hp, bind, Except.bind, pure, Except.pure, perr, Bool.false_eq_true, ↓reduceIte]

theorem parseField_month (hty : (ty.info.HAS_DATE || ty.info.IS_INTERVAL_YM) = true) (hset : st0.isMonthSet = false)
    (hp : parseNumber t ty.info.MONTH_MAX_LENGTH = .ok (neg, v, rest)) :
    parseField ty now st0 .Month =
      if neg = true then .error .ParseError
      else .ok { st0 with s := rest, dt := { st0.dt with month := v }, isMonthSet := true } := by
  simp only [parseField, hs, hty, hset, hp, perr, Bool.false_eq_true, ↓reduceIte]

theorem parseField_day (hty : (ty.info.HAS_DATE || ty.info.IS_INTERVAL_DT) = true) (hset : st0.isDaySet = false)
    (hp : parseNumber t ty.info.DAY_MAX_LENGTH = .ok (neg, v, rest)) :
    parseField ty now st0 .Day =
      if (neg && ty.info.HAS_DATE) = true then .error .ParseError
      else .ok { st0 with s := rest, dt := { st0.dt with day := if v < 0 then -v else v, negative := neg },
                          isDaySet := true } := by
  simp only [parseField, hs, hty, hset, expectNumber, hp, bind, Except.bind, pure, Except.pure, perr, Bool.and_comm,
    Bool.false_eq_true, ↓reduceIte]

theorem parseField_doy (hty : ty.info.HAS_DATE = true) (hset : st0.doy.isSome = false)
    (hp : parseNumber t ty.info.DAY_OF_YEAR_MAX_LENGTH = .ok (neg, v, rest)) :
    parseField ty now st0 .DayOfYear =
      if neg = true then .error .ParseError else .ok { st0 with s := rest, doy := some v } := by
  simp only [parseField, hs, hty, hset, expectNumber, hp, bind, Except.bind, pure, Except.pure, perr, Bool.false_eq_true,
    ↓reduceIte]

/-! For hour, minute and second the text must not have ended (`hne`): at the end of the text the tolerant variant of
    `expect_number!` supplies a default instead (below). -/

variable (hne : t.isEmpty = false)
include hne

theorem parseField_hour24 (hty : ty.info.HAS_TIME = true) (hset : st0.isHour24Set.isSome = false)
    (ham : st0.isAmPmSet = false)
    (hp : parseNumber t ty.info.HOUR_MAX_LENGTH = .ok (neg, v, rest)) :
    parseField ty now st0 .Hour24 =
      if neg = true then .error .ParseError
      else .ok { st0 with s := rest, dt := { st0.dt with hour := v }, isHour24Set := some true } := by
  simp only [parseField, hs, hty, hset, ham, expectNumber, expectNumberTol, hne, hp, ite_self, bind, Except.bind, pure,
    Except.pure, perr, Bool.false_eq_true, ↓reduceIte]

theorem parseField_hour12 (hty : (ty.info.HAS_TIME && !ty.info.IS_INTERVAL_DT) = true)
    (hset : st0.isHour24Set.isSome = false)
    (hp : parseNumber t ty.info.HOUR_MAX_LENGTH = .ok (neg, v, rest)) :
    parseField ty now st0 .Hour12 =
      if neg = true ∨ v < 1 ∨ v > 12 then .error .ParseError
      else .ok { st0 with s := rest, dt := ({ st0.dt with hour := v } : NDT).adjustHour12,
                          isHour24Set := some false } := by
  simp only [parseField, hs, hty, hset, expectNumber, expectNumberTol, hne, hp, bind, Except.bind, pure, Except.pure, perr,
    Bool.false_eq_true, ↓reduceIte]

theorem parseField_minute (hty : ty.info.HAS_TIME = true) (hset : st0.isMinSet = false)
    (hp : parseNumber t ty.info.MINUTE_MAX_LENGTH = .ok (neg, v, rest)) :
    parseField ty now st0 .Minute =
      if neg = true then .error .ParseError
      else .ok { st0 with s := rest, dt := { st0.dt with minute := v }, isMinSet := true } := by
  simp only [parseField, hs, hty, hset, expectNumber, expectNumberTol, hne, hp, ite_self, bind, Except.bind, pure,
    Except.pure, perr, Bool.false_eq_true, ↓reduceIte]

theorem parseField_second (hty : ty.info.HAS_TIME = true) (hset : st0.isSecSet = false)
    (hp : parseNumber t ty.info.SECOND_MAX_LENGTH = .ok (neg, v, rest)) :
    parseField ty now st0 .Second =
      if neg = true then .error .ParseError
      else .ok { st0 with s := rest, dt := { st0.dt with sec := v }, isSecSet := true } := by
  simp only [parseField, hs, hty, hset, expectNumber, expectNumberTol, hne, hp, ite_self, bind, Except.bind, pure,
    Except.pure, perr, Bool.false_eq_true, ↓reduceIte]

end

theorem parseField_month_name {m : Int} {e : Err} (hty : (ty.info.HAS_DATE || ty.info.IS_INTERVAL_YM) = true)
    (hset : st0.isMonthSet = false)
    (hpn : parseNumber t ty.info.MONTH_MAX_LENGTH = .error e)
    (hp : parseMonthName t = .ok (m, rest)) :
    parseField ty now st0 .Month =
      .ok { st0 with s := rest, dt := { st0.dt with month := m }, isMonthSet := true } := by
  simp only [parseField, hs, hty, hset, hpn, hp, bind, Except.bind, pure, Except.pure, Bool.false_eq_true, ↓reduceIte]

theorem parseField_monthName {m : Int} (style : NameStyle) (hty : ty.info.HAS_DATE = true)
    (hset : st0.isMonthSet = false) (hp : parseMonthName t = .ok (m, rest)) :
    parseField ty now st0 (.MonthName style) =
      .ok { st0 with s := rest, dt := { st0.dt with month := m }, isMonthSet := true } := by
  simp only [parseField, hs, hty, hset, hp, bind, Except.bind, pure, Except.pure, Bool.false_eq_true, ↓reduceIte]

theorem parseField_dayName {d : Int} (style : NameStyle) (hty : ty.info.HAS_DATE = true)
    (hset : st0.dow.isSome = false) (hp : parseWeekDayName t style = .ok (d, rest)) :
    parseField ty now st0 (.DayName style) = .ok { st0 with s := rest, dow := some d } := by
  simp only [parseField, hs, hty, hset, hp, bind, Except.bind, pure, Except.pure, Bool.false_eq_true, ↓reduceIte]

theorem parseField_dow (hty : ty.info.HAS_DATE = true) (hset : st0.dow.isSome = false) :
    parseField ty now st0 .DayOfWeek =
      parseWeekDayNumber t >>= fun x => pure { st0 with s := x.2, dow := some x.1 } := by
  simp only [parseField, hs, hty, hset, Bool.false_eq_true, ↓reduceIte]

theorem parseField_fraction {us : Int} (q : Option Nat) (hty : ty.info.HAS_FRACTION = true)
    (hset : st0.isFractionSet = false) (hp : parseFraction t (q.getD 9) = .ok (us, rest)) :
    parseField ty now st0 (.Fraction q) =
      .ok { st0 with s := rest, dt := { st0.dt with usec := us }, isFractionSet := true } := by
  simp only [parseField, hs, hty, hset, hp, bind, Except.bind, pure, Except.pure, Bool.false_eq_true, ↓reduceIte]

theorem parseField_ampm {ampm : Option Bool} (style : AmPmStyle)
    (hty : (ty.info.HAS_TIME && !ty.info.IS_INTERVAL_DT) = true) (hset : st0.isAmPmSet = false)
    (h24 : ¬ st0.isHour24Set = some true) (hp : parseAmPm t style = .ok (ampm, rest)) :
    parseField ty now st0 (.AmPm style) =
      .ok { st0 with s := rest,
                     dt := if ampm.isSome then ({ st0.dt with ampm := ampm } : NDT).adjustHour12
                           else { st0.dt with ampm := ampm },
                     isAmPmSet := true } := by
  simp only [parseField, hs, hty, hset, h24, hp, bind, Except.bind, pure, Except.pure, Bool.false_eq_true, ↓reduceIte]

/-- The character a punctuation token expects, and whether it may be missing at the end of the text. -/
theorem parseField_punct (f : Field) (ch : Nat) (hf : punctChar f = some ch) :
    parseField ty now st0 f =
      expectChar { st0 with s := t } ch (f = .Hyphen ∨ f = .Colon ∨ f = .Dot) := by
  subst hs
  cases f <;> simp [punctChar] at hf <;> subst hf <;> simp [parseField] <;> rfl

end

/-! ### hour, minute, second at the end of the text (not for the day-time interval): a default is stored -/

section
variable (ty : Ty) (now : Clock) (st0 : St) (hend : eatWhitespaces st0.s = []) (hdt : ty.info.IS_INTERVAL_DT = false)
include hend hdt

theorem parseField_hour24_end (hty : ty.info.HAS_TIME = true) (hset : st0.isHour24Set.isSome = false)
    (ham : st0.isAmPmSet = false) :
    parseField ty now st0 .Hour24 =
      .ok { st0 with s := [], dt := { st0.dt with hour := 0 }, isHour24Set := some true } := by
  simp only [parseField, hty, hset, ham, hdt, expectNumberTol, hend, List.isEmpty_nil, bind, Except.bind, pure,
    Except.pure, Int.lt_irrefl, decide_false, Bool.false_eq_true, ↓reduceIte]

theorem parseField_hour12_end (hty : ty.info.HAS_TIME = true) (hset : st0.isHour24Set.isSome = false) :
    parseField ty now st0 .Hour12 =
      .ok { st0 with s := [], dt := ({ st0.dt with hour := 12 } : NDT).adjustHour12, isHour24Set := some false } := by
  simp only [parseField, hty, hdt, hset, expectNumberTol, hend, List.isEmpty_nil, bind, Except.bind, pure, Except.pure,
    Bool.not_false, Bool.and_self, Bool.false_eq_true, ↓reduceIte]
  rfl

theorem parseField_minute_end (hty : ty.info.HAS_TIME = true) (hset : st0.isMinSet = false) :
    parseField ty now st0 .Minute = .ok { st0 with s := [], dt := { st0.dt with minute := 0 }, isMinSet := true } := by
  simp only [parseField, hty, hset, hdt, expectNumberTol, hend, List.isEmpty_nil, bind, Except.bind, pure, Except.pure,
    Int.lt_irrefl, decide_false, Bool.false_eq_true, ↓reduceIte]

theorem parseField_second_end (hty : ty.info.HAS_TIME = true) (hset : st0.isSecSet = false) :
    parseField ty now st0 .Second = .ok { st0 with s := [], dt := { st0.dt with sec := 0 }, isSecSet := true } := by
  simp only [parseField, hty, hset, hdt, expectNumberTol, hend, List.isEmpty_nil, bind, Except.bind, pure, Except.pure,
    Int.lt_irrefl, decide_false, Bool.false_eq_true, ↓reduceIte]

end

end SqlDt.Lemmas
