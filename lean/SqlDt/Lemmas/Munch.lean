/-
  Lemmas/Munch: the crate's picture lexer (Model/Lexer) equals the generic maximal-munch tokenizer
  over the documented token table (Spec/Munch).

  First-token agreement holds for every byte string except those starting with `ff0` (any letter case):
  there the crate answers `Invalid` at once, while maximal munch takes `ff` and fails one step later on `0`.
  Whole-picture agreement (`tryNew_eq_munch`) holds without exception.

  The argument.  The longest match is the first match in the table sorted by decreasing length, and only entries
  whose first byte is the text's first byte (lower-cased) can match.  So for each first letter there is a list of
  at most ten entries, longest first; it and the lexer's branch for that letter are two decision chains on the
  lower-cased next bytes.  Each per-letter proof brings both sides into that form (the lexer's by unfolding its branch,
  the table's by reading the short list front to back) and goes through the cases.
-/
import SqlDt.Spec.Munch
import SqlDt.Lemmas.Basic
namespace SqlDt.Lemmas
open SqlDt Gen Spec

theorem ci_iff {c u l : Nat} (hu : 65 ≤ u ∧ u ≤ 90) (hl : l = u + 32) : (c = u ∨ c = l) ↔ toLowerB c = l := by
  subst hl
  unfold toLowerB isUpperB
  simp only [Bool.and_eq_true, decide_eq_true_eq]
  split <;> omega

theorem nonletter_iff {c p : Nat} (hp : p < 65 ∨ (90 < p ∧ p < 97) ∨ 122 < p) : toLowerB c = p ↔ c = p := by
  unfold toLowerB isUpperB
  simp only [Bool.and_eq_true, decide_eq_true_eq]
  split <;> omega

theorem eqCI_low (c a : Nat) (ha : a < 65 ∨ 90 < a) : eqIgnoreCaseB c a = (toLowerB c == a) := by
  have : isUpperB a = false := by
    simp only [isUpperB, Bool.and_eq_false_iff, decide_eq_false_iff_not]; omega
  simp only [eqIgnoreCaseB, toLowerB, this, Bool.false_eq_true, if_false]

/-- `t` goes behind every entry that is at least as long: of two matches of equal length `longestMatch` keeps the
    earlier one (`pick`), and so must the sorted table. -/
def insertByLength (t : Tok) : List Tok → List Tok
  | [] => [t]
  | a :: l => if a.spelling.length < t.spelling.length then t :: a :: l else a :: insertByLength t l

def byLength (l : List Tok) : List Tok := l.foldl (fun acc t => insertByLength t acc) []

def Sorted (l : List Tok) : Prop := l.Pairwise fun a b => b.spelling.length ≤ a.spelling.length

theorem mem_insertByLength {t u : Tok} {l : List Tok} (h : u ∈ insertByLength t l) : u = t ∨ u ∈ l := by
  induction l with
  | nil => exact Or.inl (List.mem_singleton.1 h)
  | cons a l ih =>
    unfold insertByLength at h
    split at h
    · exact List.mem_cons.1 h
    · rcases List.mem_cons.1 h with rfl | h
      · exact Or.inr (List.mem_cons_self ..)
      · exact (ih h).imp_right (List.mem_cons_of_mem _)

theorem mem_foldl_insertByLength {t : Tok} {l acc : List Tok}
    (h : t ∈ l.foldl (fun acc t => insertByLength t acc) acc) : t ∈ l ∨ t ∈ acc := by
  induction l generalizing acc with
  | nil => exact Or.inr h
  | cons a l ih =>
    rcases ih h with h | h
    · exact Or.inl (List.mem_cons_of_mem _ h)
    · rcases mem_insertByLength h with rfl | h
      · exact Or.inl (List.mem_cons_self ..)
      · exact Or.inr h

theorem Sorted.insert {t : Tok} {l : List Tok} (hl : Sorted l) : Sorted (insertByLength t l) := by
  induction l with
  | nil => exact List.pairwise_singleton ..
  | cons a l ih =>
    have ⟨ha, hl'⟩ := List.pairwise_cons.1 hl
    unfold insertByLength
    split
    · refine List.pairwise_cons.2 ⟨fun b hb => ?_, hl⟩
      rcases List.mem_cons.1 hb with rfl | hb
      · omega
      · have := ha b hb; omega
    · refine List.pairwise_cons.2 ⟨fun b hb => ?_, ih hl'⟩
      rcases mem_insertByLength hb with rfl | hb
      · omega
      · exact ha b hb

/-- One step of `longestMatch`'s fold. -/
def pick (s : Bytes) (best : Option Tok) (t : Tok) : Option Tok :=
  if t.matchesAt s then
    match best with
    | some b => if t.spelling.length > b.spelling.length then some t else some b
    | none => some t
  else best

theorem find?_insertByLength (s : Bytes) (t : Tok) {l : List Tok} (hl : Sorted l) :
    (insertByLength t l).find? (·.matchesAt s) = pick s (l.find? (·.matchesAt s)) t := by
  induction l with
  | nil => unfold pick insertByLength; simp only [List.find?]; split <;> simp_all
  | cons a l ih =>
    have ⟨ha, hl'⟩ := List.pairwise_cons.1 hl
    unfold insertByLength
    split
    · unfold pick
      rw [List.find?_cons]
      split
      · rename_i hm
        rw [if_pos hm]
        split
        · rename_i b hb
          have : b.spelling.length ≤ a.spelling.length := by
            rcases List.mem_cons.1 (List.mem_of_find?_eq_some hb) with rfl | hb
            · omega
            · exact ha b hb
          rw [if_pos (by omega)]
        · rfl
      · rename_i hm
        rw [if_neg (by simpa using hm)]
    · rw [List.find?_cons, List.find?_cons, ih hl']
      split
      · unfold pick
        split
        · exact (if_neg (by omega)).symm
        · rfl
      · rfl

theorem foldl_pick_eq_find? (s : Bytes) (l acc : List Tok) (hacc : Sorted acc) :
    l.foldl (pick s) (acc.find? (·.matchesAt s)) =
      (l.foldl (fun acc t => insertByLength t acc) acc).find? (·.matchesAt s) := by
  induction l generalizing acc with
  | nil => rfl
  | cons t l ih => rw [List.foldl_cons, List.foldl_cons, ← find?_insertByLength s t hacc]; exact ih _ hacc.insert

theorem longestMatch_mem (s : Bytes) (t : Tok) (h : longestMatch s = some t) : t ∈ tokenTable := by
  have : longestMatch s = (byLength tokenTable).find? (·.matchesAt s) :=
    foldl_pick_eq_find? s tokenTable [] List.Pairwise.nil
  rw [this] at h
  exact (mem_foldl_insertByLength (List.mem_of_find?_eq_some h)).resolve_right (List.not_mem_nil)

def firstIs (x : Nat) (t : Tok) : Bool :=
  match t.spelling with
  | [] => true
  | a :: _ => toLowerB a == x

theorem firstIs_of_matchesAt (t : Tok) (c : Nat) (rest : Bytes) (h : t.matchesAt (c :: rest) = true) :
    firstIs (toLowerB c) t = true := by
  unfold Tok.matchesAt at h
  unfold firstIs
  cases hs : t.spelling with
  | nil => rfl
  | cons a p =>
    rw [hs] at h
    split at h
    · simp only [startsWith, Bool.and_eq_true, beq_iff_eq] at h
      simp [h.1]
    · simp only [startsWithCI, eqIgnoreCaseB, Bool.and_eq_true, beq_iff_eq] at h
      simp [h.1]

theorem foldl_pick_filter (p : Tok → Bool) (s : Bytes) (l : List Tok) (init : Option Tok)
    (h : ∀ t ∈ l, t.matchesAt s = true → p t = true) :
    l.foldl (pick s) init = (l.filter p).foldl (pick s) init := by
  induction l generalizing init with
  | nil => rfl
  | cons t ts ih =>
    have ih' := fun i => ih i fun u hu => h u (List.mem_cons_of_mem _ hu)
    by_cases hp : p t = true
    · rw [List.filter_cons_of_pos hp]; exact ih' _
    · have hm : ¬ t.matchesAt s = true := fun hm => hp (h t (List.mem_cons_self ..) hm)
      rw [List.filter_cons_of_neg hp, ← ih', List.foldl_cons, pick.eq_def, if_neg hm]

/-- Maximal munch on a text with first byte `c`, through the entries that start with `c`, longest first. A caller writes
    that list out as `l`; `hl` is then checked by evaluation. -/
theorem munchNext_cons {c x : Nat} {l : List Tok} (rest : Bytes) (hc : toLowerB c = x) (hx : x ≠ 32)
    (hl : byLength (tokenTable.filter (firstIs x)) = l) :
    munchNext (c :: rest) = some ((l.find? (·.matchesAt (c :: rest))).map fun t =>
      (t.build ((c :: rest).take t.spelling.length), (c :: rest).drop t.spelling.length)) := by
  have h32 : c ≠ 32 := by rintro rfl; exact hx hc.symm
  have : longestMatch (c :: rest) = l.find? (·.matchesAt (c :: rest)) := by
    rw [← hl, ← hc]
    exact (foldl_pick_filter _ _ _ _ fun t _ => firstIs_of_matchesAt t c rest).trans
      (foldl_pick_eq_find? _ _ [] List.Pairwise.nil)
  simp only [munchNext, h32, if_false, this]
  cases l.find? (·.matchesAt (c :: rest)) <;> rfl

theorem nextNorm_of_next {s : Bytes} {p : Field × Bytes} (h : Lexer.next s = some p) :
    Lexer.nextNorm s = some (if p.1 = .Invalid then none else some p) := by
  obtain ⟨f, r⟩ := p
  unfold Lexer.nextNorm
  rw [h]
  dsimp only
  split <;> rfl

theorem find?_cons_ite {α} (p : α → Bool) (a : α) (l : List α) :
    (a :: l).find? p = if p a = true then some a else l.find? p := by
  rw [List.find?_cons]; cases p a <;> rfl

/-- The table with its spellings evaluated (`lit "yyyy"` is a `String.toList`).  Every check by evaluation below rewrites
    with it first, so that the strings are evaluated once, here. -/
theorem tokenTable_eq : tokenTable = [
  ⟨[121,121,121,121], false, fun _ => .Year 4⟩, ⟨[121,121,121], false, fun _ => .Year 3⟩, ⟨[121,121], false, fun _ => .Year 2⟩,
  ⟨[121], false, fun _ => .Year 1⟩,
  ⟨[109,109], false, fun _ => .Month⟩, ⟨[109,111,110], false, fun m => .MonthName (nameStyle m true)⟩,
  ⟨[109,111,110,116,104], false, fun m => .MonthName (nameStyle m false)⟩,
  ⟨[100,100], false, fun _ => .Day⟩, ⟨[100,100,100], false, fun _ => .DayOfYear⟩, ⟨[100], false, fun _ => .DayOfWeek⟩,
  ⟨[100,97,121], false, fun m => .DayName (nameStyle m false)⟩, ⟨[100,121], false, fun m => .DayName (nameStyle m true)⟩,
  ⟨[104,104], false, fun _ => .Hour12⟩, ⟨[104,104,49,50], false, fun _ => .Hour12⟩, ⟨[104,104,50,52], false, fun _ => .Hour24⟩,
  ⟨[109,105], false, fun _ => .Minute⟩, ⟨[115,115], false, fun _ => .Second⟩,
  ⟨[102,102], false, fun _ => .Fraction none⟩,
  ⟨[102,102,49], false, fun _ => .Fraction (some 1)⟩, ⟨[102,102,50], false, fun _ => .Fraction (some 2)⟩,
  ⟨[102,102,51], false, fun _ => .Fraction (some 3)⟩, ⟨[102,102,52], false, fun _ => .Fraction (some 4)⟩,
  ⟨[102,102,53], false, fun _ => .Fraction (some 5)⟩, ⟨[102,102,54], false, fun _ => .Fraction (some 6)⟩,
  ⟨[102,102,55], false, fun _ => .Fraction (some 7)⟩, ⟨[102,102,56], false, fun _ => .Fraction (some 8)⟩,
  ⟨[102,102,57], false, fun _ => .Fraction (some 9)⟩,
  ⟨[97,109], false, fun m => .AmPm (ampmStyle m false)⟩, ⟨[112,109], false, fun m => .AmPm (ampmStyle m false)⟩,
  ⟨[97,46,109,46], false, fun m => .AmPm (ampmStyle m true)⟩, ⟨[112,46,109,46], false, fun m => .AmPm (ampmStyle m true)⟩,
  ⟨[119], false, fun _ => .WeekOfMonth⟩, ⟨[119,119], false, fun _ => .WeekOfYear⟩,
  ⟨[84], true, fun _ => .T⟩,
  ⟨[45], true, fun _ => .Hyphen⟩, ⟨[58], true, fun _ => .Colon⟩, ⟨[47], true, fun _ => .Slash⟩,
  ⟨[92], true, fun _ => .Backslash⟩, ⟨[44], true, fun _ => .Comma⟩, ⟨[46], true, fun _ => .Dot⟩,
  ⟨[59], true, fun _ => .Semicolon⟩ ] := by rfl

theorem takeWhile_blank (s : Bytes) : (s.takeWhile (· == 32)).length = countLeading 32 s := by
  induction s with
  | nil => rfl
  | cons a t ih =>
    by_cases h : a = 32
    · simp [countLeading, h, ih]
    · simp [countLeading, h]

theorem next_blank (rest : Bytes) : Lexer.nextNorm (32 :: rest) = munchNext (32 :: rest) := by
  simp [Lexer.nextNorm, Lexer.next, munchNext, B, List.takeWhile, takeWhile_blank]

section
attribute [local simp] find?_cons_ite Tok.matchesAt startsWithCI startsWith eqCI_low ci_iff nonletter_iff B

theorem next_punct (c : Nat) (rest : Bytes) (hc : c ∈ [45, 58, 47, 92, 44, 46, 59, 84, 116]) :
    Lexer.nextNorm (c :: rest) = munchNext (c :: rest) := by
  -- `T` is case-sensitive: on `t` (116) neither side finds a token
  unfold munchNext longestMatch
  rw [tokenTable_eq]
  simp only [List.mem_cons, List.mem_nil_iff, or_false] at hc
  rcases hc with rfl | rfl | rfl | rfl | rfl | rfl | rfl | rfl | rfl <;> cases rest <;> rfl

theorem next_s (c : Nat) (rest : Bytes) (hc : toLowerB c = 115) :
    Lexer.nextNorm (c :: rest) = munchNext (c :: rest) := by
  have hl : Lexer.next (c :: rest) = some (Lexer.parseSecond rest) := by
    rcases (ci_iff (by decide) rfl).2 hc with rfl | rfl <;> rfl
  rw [nextNorm_of_next hl, munchNext_cons rest hc (by decide) (l := [⟨[115,115], false, fun _ => .Second⟩])
    (by rw [tokenTable_eq]; rfl)]
  simp [hc]
  rcases rest with _ | ⟨c2, rest⟩
  · simp [Lexer.parseSecond]
  · by_cases h2 : toLowerB c2 = 115 <;> simp [Lexer.parseSecond, h2]

theorem next_w (c : Nat) (rest : Bytes) (hc : toLowerB c = 119) :
    Lexer.nextNorm (c :: rest) = munchNext (c :: rest) := by
  have hl : Lexer.next (c :: rest) = some (match rest with
      | [] => (.WeekOfMonth, rest)
      | c2 :: rest2 => if c2 = 87 ∨ c2 = 119 then (.WeekOfYear, rest2) else (.WeekOfMonth, rest)) := by
    rcases (ci_iff (by decide) rfl).2 hc with rfl | rfl <;> rfl
  rw [nextNorm_of_next hl, munchNext_cons rest hc (by decide)
    (l := [⟨[119,119], false, fun _ => .WeekOfYear⟩, ⟨[119], false, fun _ => .WeekOfMonth⟩]) (by rw [tokenTable_eq]; rfl)]
  simp [hc]
  rcases rest with _ | ⟨c2, rest⟩
  · simp
  · by_cases h2 : toLowerB c2 = 119 <;> simp [h2]

theorem next_h (c : Nat) (rest : Bytes) (hc : toLowerB c = 104) :
    Lexer.nextNorm (c :: rest) = munchNext (c :: rest) := by
  have hl : Lexer.next (c :: rest) = some (Lexer.parseHour rest) := by
    rcases (ci_iff (by decide) rfl).2 hc with rfl | rfl <;> rfl
  rw [nextNorm_of_next hl, munchNext_cons rest hc (by decide)
    (l := [⟨[104,104,49,50], false, fun _ => .Hour12⟩, ⟨[104,104,50,52], false, fun _ => .Hour24⟩,
           ⟨[104,104], false, fun _ => .Hour12⟩]) (by rw [tokenTable_eq]; rfl)]
  simp [hc]
  rcases rest with _ | ⟨c2, rest⟩
  · simp [Lexer.parseHour]
  simp only [Lexer.parseHour, ne_eq, ← not_or]
  by_cases h2 : toLowerB c2 = 104
  · rcases rest with _ | ⟨d, _ | ⟨e, rest⟩⟩ <;> simp [h2]
    by_cases h24 : d = 50 ∧ e = 52
    · simp [h24]
    · by_cases h12 : d = 49 ∧ e = 50 <;> simp [h24, h12]
  · simp [h2]

theorem next_y (c : Nat) (rest : Bytes) (hc : toLowerB c = 121) :
    Lexer.nextNorm (c :: rest) = munchNext (c :: rest) := by
  have hl : Lexer.next (c :: rest) = some (Lexer.parseYear (c :: rest)) := by
    rcases (ci_iff (by decide) rfl).2 hc with rfl | rfl <;> rfl
  rw [nextNorm_of_next hl, munchNext_cons rest hc (by decide)
    (l := [⟨[121,121,121,121], false, fun _ => .Year 4⟩, ⟨[121,121,121], false, fun _ => .Year 3⟩,
           ⟨[121,121], false, fun _ => .Year 2⟩, ⟨[121], false, fun _ => .Year 1⟩]) (by rw [tokenTable_eq]; rfl)]
  simp [Lexer.parseYear, hc]
  rcases rest with _ | ⟨c2, rest⟩
  · simp
  by_cases h2 : toLowerB c2 = 121
  case neg => simp [h2]
  rcases rest with _ | ⟨c3, rest⟩
  · simp [h2]
  by_cases h3 : toLowerB c3 = 121
  case neg => simp [h2, h3]
  rcases rest with _ | ⟨c4, rest⟩
  · simp [h2, h3]
  by_cases h4 : toLowerB c4 = 121 <;> simp [h2, h3, h4]

/-- `parse_am` / `parse_pm` after their letter, in the spec's terms: `.m.` before `m`, the style from the matched text. -/
theorem parseMeridian_cons {c u : Nat} (hu : 65 ≤ u ∧ u ≤ 90) (hc : toLowerB c = u + 32) (rest : Bytes) :
    Lexer.parseMeridian (u + 32) u (c :: rest) =
      if startsWithCI rest [46, 109, 46] then (.AmPm (ampmStyle (c :: rest.take 3) true), rest.drop 3)
      else if startsWithCI rest [109] then (.AmPm (ampmStyle (c :: rest.take 1) false), rest.drop 1)
      else (.Invalid, c :: rest) := by
  have hc' := (ci_iff hu rfl).2 hc
  have m_iff := fun x => ci_iff (c := x) (u := 77) (l := 109) (by decide) rfl
  rcases rest with _ | ⟨c2, rest⟩
  · simp [Lexer.parseMeridian]
  by_cases hm : toLowerB c2 = 109
  · rcases hc' with rfl | rfl <;> rcases (m_iff c2).2 hm with rfl | rfl <;>
      simp [-ci_iff, Lexer.parseMeridian, ampmStyle, isUpperB, hu, toLowerB] <;> omega
  have hm' := mt (m_iff c2).1 hm
  by_cases hd : c2 = 46
  · subst hd
    rcases rest with _ | ⟨c3, _ | ⟨c4, rest⟩⟩
    · simp [Lexer.parseMeridian, hm]
    · simp [Lexer.parseMeridian, hm]
    by_cases h3 : toLowerB c3 = 109
    · by_cases h4 : c4 = 46
      · subst h4
        rcases hc' with rfl | rfl <;> rcases (m_iff c3).2 h3 with rfl | rfl <;>
          simp [-ci_iff, Lexer.parseMeridian, ampmStyle, isUpperB, hu, toLowerB] <;> omega
      · simp [-ci_iff, Lexer.parseMeridian, hm, h3, h4]
    · have h3' := mt (m_iff c3).1 h3
      simp only [not_or] at h3'
      simp [-ci_iff, Lexer.parseMeridian, hm, h3, h3']
  · simp only [not_or] at hm'
    rcases rest with _ | ⟨c3, _ | ⟨c4, rest⟩⟩ <;> simp [-ci_iff, Lexer.parseMeridian, hm, hm', hd]

theorem next_ap (c u : Nat) (rest : Bytes) (hu : u = 65 ∨ u = 80) (hc : toLowerB c = u + 32) :
    Lexer.nextNorm (c :: rest) = munchNext (c :: rest) := by
  have hl : Lexer.next (c :: rest) = some (Lexer.parseMeridian (u + 32) u (c :: rest)) := by
    rcases hu with rfl | rfl <;> rcases (ci_iff (by decide) rfl).2 hc with rfl | rfl <;> rfl
  have he : eqIgnoreCaseB c (u + 32) = true := by rw [eqCI_low _ _ (by omega), hc]; exact beq_self_eq_true _
  rw [nextNorm_of_next hl, parseMeridian_cons (by omega) hc, munchNext_cons rest hc (by omega)
    (l := [⟨[u + 32,46,109,46], false, fun m => .AmPm (ampmStyle m true)⟩, ⟨[u + 32,109], false, fun m => .AmPm (ampmStyle m false)⟩])
    (by rcases hu with rfl | rfl <;> (rw [tokenTable_eq]; rfl))]
  by_cases h4 : startsWithCI rest [46, 109, 46] = true
  · simp [he, h4]
  · by_cases h2 : startsWithCI rest [109] = true <;> simp [he, h4, h2]

/-- The name style as the lexer decides it, from the first two bytes of a name that matched ignoring case. -/
theorem nameStyle_cons {a b u v : Nat} (hu : 65 ≤ u ∧ u ≤ 90) (hv : 65 ≤ v ∧ v ≤ 90)
    (ha : toLowerB a = u + 32) (hb : toLowerB b = v + 32) (m : Bytes) (abbr : Bool) :
    nameStyle (a :: b :: m) abbr =
      if [a, b] = [u, v] then (if abbr then .AbbrUpper else .Upper)
      else if [a, b] = [u, v + 32] then (if abbr then .AbbrCapital else .Capital)
      else (if abbr then .AbbrLower else .Lower) := by
  have hu' : ¬ (33 ≤ u ∧ u ≤ 58) := by omega
  have hv' : ¬ (33 ≤ v ∧ v ≤ 58) := by omega
  rcases (ci_iff hu rfl).2 ha with rfl | rfl <;> rcases (ci_iff hv rfl).2 hb with rfl | rfl <;>
    simp [nameStyle, isUpperB, hu, hv, hu', hv']

theorem parseMonthName_cons {c : Nat} (hc : toLowerB c = 109) (rest : Bytes) :
    Lexer.parseMonthName (c :: rest) =
      if startsWithCI rest [111, 110, 116, 104] then (.MonthName (nameStyle (c :: rest.take 4) false), rest.drop 4)
      else if startsWithCI rest [111, 110] then (.MonthName (nameStyle (c :: rest.take 2) true), rest.drop 2)
      else (.Invalid, c :: rest) := by
  rcases rest with _ | ⟨c2, rest⟩
  · simp [Lexer.parseMonthName]
  by_cases ho : toLowerB c2 = 111
  · simp [Lexer.parseMonthName, hc, ho, nameStyle_cons (u := 77) (v := 79) (by decide) (by decide) hc ho]
    (repeat' split) <;> rfl
  · simp [Lexer.parseMonthName, hc, ho]

theorem parseDayName_cons {c : Nat} (hc : toLowerB c = 100) (rest : Bytes) :
    Lexer.parseDayName (c :: rest) =
      if startsWithCI rest [97, 121] then (.DayName (nameStyle (c :: rest.take 2) false), rest.drop 2)
      else if startsWithCI rest [121] then (.DayName (nameStyle (c :: rest.take 1) true), rest.drop 1)
      else (.DayOfWeek, rest) := by
  rcases rest with _ | ⟨c2, rest⟩
  · simp [Lexer.parseDayName]
  by_cases ha : toLowerB c2 = 97
  · simp [Lexer.parseDayName, hc, ha, nameStyle_cons (u := 68) (v := 65) (by decide) (by decide) hc ha]
    (repeat' split) <;> rfl
  by_cases hy : toLowerB c2 = 121
  · simp [Lexer.parseDayName, hc, hy, nameStyle_cons (u := 68) (v := 89) (by decide) (by decide) hc hy]
    (repeat' split) <;> rfl
  · simp [Lexer.parseDayName, hc, ha, hy]

theorem next_m (c : Nat) (rest : Bytes) (hc : toLowerB c = 109) :
    Lexer.nextNorm (c :: rest) = munchNext (c :: rest) := by
  have hl : Lexer.next (c :: rest) = some (match rest with
      | [] => (.Invalid, rest)
      | c2 :: rest2 =>
        if c2 = 73 ∨ c2 = 105 then (.Minute, rest2) else if c2 = 77 ∨ c2 = 109 then (.Month, rest2)
        else if c2 = 79 ∨ c2 = 111 then Lexer.parseMonthName (c :: rest) else (.Invalid, rest)) := by
    rcases (ci_iff (by decide) rfl).2 hc with rfl | rfl <;> rfl
  rw [nextNorm_of_next hl, munchNext_cons rest hc (by decide)
    (l := [⟨[109,111,110,116,104], false, fun m => .MonthName (nameStyle m false)⟩,
           ⟨[109,111,110], false, fun m => .MonthName (nameStyle m true)⟩,
           ⟨[109,109], false, fun _ => .Month⟩, ⟨[109,105], false, fun _ => .Minute⟩]) (by rw [tokenTable_eq]; rfl)]
  simp [hc]
  rcases rest with _ | ⟨c2, rest⟩
  · simp
  simp [hc, parseMonthName_cons]
  by_cases hi : toLowerB c2 = 105
  · simp [hi]
  by_cases hm : toLowerB c2 = 109
  · simp [hm]
  by_cases ho : toLowerB c2 = 111
  · by_cases h5 : startsWithCI rest [110, 116, 104] = true
    · simp [ho, h5]
    · by_cases h3 : startsWithCI rest [110] = true <;> simp [ho, h5, h3]
  · simp [hi, hm, ho]

theorem next_d (c : Nat) (rest : Bytes) (hc : toLowerB c = 100) :
    Lexer.nextNorm (c :: rest) = munchNext (c :: rest) := by
  have hl : Lexer.next (c :: rest) = some (match rest with
      | [] => (.DayOfWeek, rest)
      | c2 :: rest2 =>
        if c2 = 68 ∨ c2 = 100 then
          match rest2 with
          | [] => (.Day, rest2)
          | c3 :: rest3 => if c3 = 68 ∨ c3 = 100 then (.DayOfYear, rest3) else (.Day, rest2)
        else if c2 = 97 ∨ c2 = 65 ∨ c2 = 89 ∨ c2 = 121 then Lexer.parseDayName (c :: rest)
        else (.DayOfWeek, rest)) := by
    rcases (ci_iff (by decide) rfl).2 hc with rfl | rfl <;> rfl
  rw [nextNorm_of_next hl, munchNext_cons rest hc (by decide)
    (l := [⟨[100,100,100], false, fun _ => .DayOfYear⟩, ⟨[100,97,121], false, fun m => .DayName (nameStyle m false)⟩,
           ⟨[100,100], false, fun _ => .Day⟩, ⟨[100,121], false, fun m => .DayName (nameStyle m true)⟩,
           ⟨[100], false, fun _ => .DayOfWeek⟩]) (by rw [tokenTable_eq]; rfl)]
  simp [-ci_iff, hc]
  rcases rest with _ | ⟨c2, rest⟩
  · simp
  have hay : (c2 = 97 ∨ c2 = 65 ∨ c2 = 89 ∨ c2 = 121) ↔ (toLowerB c2 = 97 ∨ toLowerB c2 = 121) := by
    have := ci_iff (c := c2) (u := 65) (l := 97) (by decide) rfl
    have := ci_iff (c := c2) (u := 89) (l := 121) (by decide) rfl
    omega
  simp only [hay]
  simp [hc, parseDayName_cons]
  by_cases hd : toLowerB c2 = 100
  · rcases rest with _ | ⟨c3, rest⟩
    · simp [hd]
    · by_cases hd3 : toLowerB c3 = 100 <;> simp [hd, hd3]
  by_cases ha : toLowerB c2 = 97
  · by_cases hy3 : startsWithCI rest [121] = true <;> simp [ha, hy3]
  by_cases hy : toLowerB c2 = 121 <;> simp [hd, ha, hy]

/-- `s` starts with `ff0` in any letter case. -/
def startsFF0 (s : Bytes) : Prop := ∃ a b r, s = a :: b :: 48 :: r ∧ (a = 70 ∨ a = 102) ∧ (b = 70 ∨ b = 102)

theorem next_f (c : Nat) (rest : Bytes) (hc : toLowerB c = 102) (h : ¬ startsFF0 (c :: rest)) :
    Lexer.nextNorm (c :: rest) = munchNext (c :: rest) := by
  have hc' : c = 70 ∨ c = 102 := (ci_iff (by decide) rfl).2 hc
  have hl : Lexer.next (c :: rest) = some (Lexer.parseFraction rest) := by rcases hc' with rfl | rfl <;> rfl
  rw [nextNorm_of_next hl, munchNext_cons rest hc (by decide)
    (l := [⟨[102,102,49], false, fun _ => .Fraction (some 1)⟩, ⟨[102,102,50], false, fun _ => .Fraction (some 2)⟩,
      ⟨[102,102,51], false, fun _ => .Fraction (some 3)⟩, ⟨[102,102,52], false, fun _ => .Fraction (some 4)⟩,
      ⟨[102,102,53], false, fun _ => .Fraction (some 5)⟩, ⟨[102,102,54], false, fun _ => .Fraction (some 6)⟩,
      ⟨[102,102,55], false, fun _ => .Fraction (some 7)⟩, ⟨[102,102,56], false, fun _ => .Fraction (some 8)⟩,
      ⟨[102,102,57], false, fun _ => .Fraction (some 9)⟩, ⟨[102,102], false, fun _ => .Fraction none⟩])
    (by rw [tokenTable_eq]; rfl)]
  simp [hc]
  rcases rest with _ | ⟨c2, rest⟩
  · simp [Lexer.parseFraction]
  by_cases hf : toLowerB c2 = 102
  case neg => simp [Lexer.parseFraction, hf]
  rcases rest with _ | ⟨d, rest⟩
  · simp [Lexer.parseFraction, hf]
  simp [Lexer.parseFraction, hf]
  by_cases hd : isDigitB d = true
  · have : d = 48 ∨ d = 49 ∨ d = 50 ∨ d = 51 ∨ d = 52 ∨ d = 53 ∨ d = 54 ∨ d = 55 ∨ d = 56 ∨ d = 57 := by
      simp only [isDigitB, Bool.and_eq_true, decide_eq_true_eq] at hd; omega
    rcases this with rfl | rfl | rfl | rfl | rfl | rfl | rfl | rfl | rfl | rfl
    · exact absurd ⟨_, _, _, rfl, hc', (ci_iff (by decide) rfl).2 hf⟩ h
    all_goals simp [isDigitB]
  · have : ¬ d = 49 ∧ ¬ d = 50 ∧ ¬ d = 51 ∧ ¬ d = 52 ∧ ¬ d = 53 ∧ ¬ d = 54 ∧ ¬ d = 55 ∧ ¬ d = 56 ∧ ¬ d = 57 := by
      simp only [isDigitB, Bool.and_eq_true, decide_eq_true_eq] at hd; omega
    simp [hd, this]

end

theorem next_ff0 (a b : Nat) (r : Bytes) (ha : a = 70 ∨ a = 102) (hb : b = 70 ∨ b = 102) :
    Lexer.nextNorm (a :: b :: 48 :: r) = some none ∧
    munchNext (a :: b :: 48 :: r) = some (some (.Fraction none, 48 :: r)) ∧
    munchNext (48 :: r) = some none := by
  unfold munchNext longestMatch
  rw [tokenTable_eq]
  refine ⟨?_, ?_, rfl⟩ <;> rcases ha with rfl | rfl <;> rcases hb with rfl | rfl <;> rfl

theorem mem_of_nonletters {c : Nat} {l : List Nat} (hl : ∀ p ∈ l, p < 65 ∨ (90 < p ∧ p < 97) ∨ 122 < p) :
    toLowerB c ∈ l ↔ c ∈ l := by
  induction l with
  | nil => simp
  | cons p l ih =>
    rw [List.mem_cons, List.mem_cons, nonletter_iff (hl p (List.mem_cons_self ..)),
      ih fun q hq => hl q (List.mem_cons_of_mem _ hq)]

/-- The first bytes of the table's entries, lower-cased: ten letters and seven punctuation marks. -/
theorem firstIs_mem (t : Tok) (ht : t ∈ tokenTable) (x : Nat) (h : firstIs x t = true) :
    x ∈ [121, 109, 100, 104, 115, 102, 97, 112, 119, 116] ∨ x ∈ [45, 58, 47, 92, 44, 46, 59] := by
  have key : tokenTable.all (fun t => t.spelling.head?.any fun a =>
      [121, 109, 100, 104, 115, 102, 97, 112, 119, 116].contains (toLowerB a) ||
        [45, 58, 47, 92, 44, 46, 59].contains (toLowerB a)) = true := by
    rw [tokenTable_eq]; decide
  have := List.all_eq_true.1 key t ht
  unfold firstIs at h
  cases hs : t.spelling with
  | nil => simp [hs] at this
  | cons a p =>
    simp only [hs, beq_iff_eq] at h this
    subst h
    simpa only [List.head?_cons, Option.any_some, Bool.or_eq_true, List.contains_iff_mem] using this

theorem next_other (c : Nat) (rest : Bytes) (h32 : c ≠ 32) (hp : c ∉ [45, 58, 47, 92, 44, 46, 59])
    (hl : toLowerB c ∉ [121, 109, 100, 104, 115, 102, 97, 112, 119, 116]) :
    Lexer.nextNorm (c :: rest) = munchNext (c :: rest) := by
  have hb : byLength (tokenTable.filter (firstIs (toLowerB c))) = [] := by
    rw [List.filter_eq_nil_iff.2 fun t ht hf =>
      (firstIs_mem t ht _ hf).elim hl fun h => hp ((mem_of_nonletters (by decide)).1 h)]
    rfl
  rw [munchNext_cons rest rfl (fun h => h32 ((nonletter_iff (by decide)).1 h)) hb]
  have hT : ¬ c = 84 := by rintro rfl; exact hl (by decide)
  simp only [List.mem_cons, List.mem_nil_iff, or_false, not_or] at hp hl
  simp [Lexer.nextNorm, Lexer.next, B, ci_iff, h32, hl, hp, hT]

theorem next_eq_munchNext (s : Bytes) (h : ¬ startsFF0 s) : Lexer.nextNorm s = munchNext s := by
  cases s with
  | nil => rfl
  | cons c rest =>
    by_cases h0 : c = 32
    · subst h0; exact next_blank rest
    by_cases hp : c ∈ [45, 58, 47, 92, 44, 46, 59]
    · exact next_punct c rest (List.mem_append_left [84, 116] hp)
    by_cases ht : toLowerB c = 116
    · exact next_punct c rest
        (List.mem_append_right [45, 58, 47, 92, 44, 46, 59] (by simpa using (ci_iff (by decide) rfl).2 ht))
    by_cases hy : toLowerB c = 121
    · exact next_y c rest hy
    by_cases hm : toLowerB c = 109
    · exact next_m c rest hm
    by_cases hd : toLowerB c = 100
    · exact next_d c rest hd
    by_cases hh : toLowerB c = 104
    · exact next_h c rest hh
    by_cases hs : toLowerB c = 115
    · exact next_s c rest hs
    by_cases hf : toLowerB c = 102
    · exact next_f c rest hf h
    by_cases ha : toLowerB c = 97
    · exact next_ap c 65 rest (Or.inl rfl) ha
    by_cases hq : toLowerB c = 112
    · exact next_ap c 80 rest (Or.inr rfl) hq
    by_cases hw : toLowerB c = 119
    · exact next_w c rest hw
    · exact next_other c rest h0 hp (by simp [hy, hm, hd, hh, hs, hf, ha, hq, hw, ht])

theorem spelling_pos : tokenTable.all (fun t => decide (1 ≤ t.spelling.length)) = true := by
  rw [tokenTable_eq]; decide

theorem munchNext_length (s : Bytes) (f : Field) (r : Bytes) (h : munchNext s = some (some (f, r))) :
    r.length < s.length := by
  cases s with
  | nil => simp [munchNext] at h
  | cons c rest =>
    unfold munchNext at h
    by_cases hc : c = 32
    · subst hc
      simp only [if_true, Option.some.injEq, Prod.mk.injEq] at h
      rw [← h.2]
      simp
      omega
    · simp only [hc, if_false] at h
      cases hl : longestMatch (c :: rest) with
      | none => simp [hl] at h
      | some t =>
        have hp : 1 ≤ t.spelling.length := by
          simpa using List.all_eq_true.mp spelling_pos t (longestMatch_mem _ _ hl)
        simp only [hl, Option.some.injEq, Prod.mk.injEq] at h
        rw [← h.2]
        simp only [List.length_drop, List.length_cons]
        omega

/-- One round of `try_new`, in the shape of `munchAux`. -/
theorem tryNewAux_succ (fuel : Nat) (s : Bytes) (acc : List Field) :
    Lexer.tryNewAux (fuel + 1) s acc =
      match Lexer.nextNorm s with
      | none => .ok acc.reverse
      | some none => .error .InvalidFormat
      | some (some (f, r)) =>
        if acc.length ≥ MAX_FIELDS then .error .InvalidFormat else Lexer.tryNewAux fuel r (f :: acc) := by
  rw [Lexer.tryNewAux, Lexer.nextNorm]
  cases Lexer.next s with
  | none => rfl
  | some p => by_cases hi : p.1 = .Invalid <;> simp only [hi, ↓reduceIte]

theorem tryNewAux_eq (fuel : Nat) (s : Bytes) (acc : List Field) (hf : s.length < fuel) :
    Lexer.tryNewAux fuel s acc = munchAux fuel s acc := by
  induction fuel generalizing s acc with
  | zero => omega
  | succ fuel ih =>
    rw [tryNewAux_succ, munchAux]
    by_cases hff : startsFF0 s
    · -- the crate rejects `ff0` in this round, maximal munch in the next
      obtain ⟨a, b, r, rfl, ha, hb⟩ := hff
      obtain ⟨h1, h2, h3⟩ := next_ff0 a b r ha hb
      rw [h1, h2]
      cases fuel with
      | zero => simp at hf
      | succ fuel => dsimp only; rw [munchAux, h3]; split <;> rfl
    · rw [next_eq_munchNext s hff]
      cases h : munchNext s with
      | none => rfl
      | some o =>
        cases o with
        | none => rfl
        | some p =>
          dsimp only
          split
          · rfl
          · exact ih p.2 _ (by have := munchNext_length s p.1 p.2 h; omega)

theorem tryNew_eq_munch (pic : Bytes) : Lexer.tryNew pic = munch pic :=
  tryNewAux_eq _ _ _ (Nat.lt_succ_self _)

-- Of the lexer alone, for Lemmas/NoPanic and Props/C03, C19: its only error, and how it counts a run of blanks.

theorem tryNewAux_post : ∀ (fuel : Nat) (input : Bytes) (acc : List Field),
    Chk.Post (Lexer.tryNewAux fuel input acc) (fun _ => True) (· = .InvalidFormat)
  | 0, _, _ => .ok trivial
  | fuel + 1, input, acc => by
    unfold Lexer.tryNewAux
    split
    · exact .ok trivial
    · exact .ite (.error rfl) (.ite (.error rfl) (tryNewAux_post fuel _ _))

theorem countLeading_replicate (n : Nat) (rest : Bytes) (h : rest.head? ≠ some 32) :
    countLeading 32 (List.replicate n 32 ++ rest) = n := by
  induction n with
  | zero =>
    cases rest with
    | nil => rfl
    | cons a t =>
      have : a ≠ 32 := by simpa using h
      simp [countLeading, this]
  | succ n ih => simp [List.replicate_succ, countLeading, ih]

end SqlDt.Lemmas
