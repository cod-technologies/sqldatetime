/-
  Lemmas/Div: the crate's sign-case code for splitting microsecond counts equals floor division
  (`/`, `%` on `Int` are the Euclidean ones, which floor for a positive divisor); the checked linear operations are
  the range gate on the exact integer result (the machine-integer check before each gate never decides anything:
  every value type's range lies inside its machine integer and both failures report the same error); and
  `Timestamp.trunc` / `round` are `Date.trunc` / `round` on the date part, or on that of the instant half a day later.
-/
import SqlDt.Lemmas.Consts
namespace SqlDt
open Gen

theorem Timestamp.extract_eq (ts : Int) :
    Timestamp.extract ts = (ts / 86400000000, ts % 86400000000) := by
  unfold Timestamp.extract USECONDS_PER_DAY
  by_cases h : ts < 0
  · simp only [h, ↓reduceIte, rrem_neg_eq h, rdiv_neg_eq h]
    by_cases h2 : -(-ts % 86400000000) < 0
    · simp only [h2, ↓reduceIte, Prod.mk.injEq]; omega
    · simp only [h2, ↓reduceIte, Prod.mk.injEq]; omega
  · have h' : 0 ≤ ts := by omega
    simp only [h, ↓reduceIte, rrem_nonneg_eq h', rdiv_nonneg_eq h']

theorem Timestamp.extract_date_valid (ts : Int) (h : isValidTimestamp ts) : isValidDate (Timestamp.extract ts).1 := by
  rw [isValidTimestamp_iff] at h; rw [isValidDate_iff, Timestamp.extract_eq]; simp only; omega

theorem Timestamp.date_eq (ts : Int) : Timestamp.date ts = ts / 86400000000 := by
  simp only [Timestamp.date, USECONDS_PER_DAY, rdiv, rrem]
  omega

theorem Timestamp.time_eq (ts : Int) : Timestamp.time ts = ts % 86400000000 := by
  simp only [Timestamp.time, USECONDS_PER_DAY, rrem]
  omega

theorem Time.extract_eq (t : Int) (h0 : 0 ≤ t) :
    Time.extract t = (t / 3600000000, t % 3600000000 / 60000000, t % 60000000 / 1000000, t % 1000000) := by
  unfold Time.extract USECONDS_PER_HOUR USECONDS_PER_MINUTE USECONDS_PER_SECOND
  simp only []
  rw [rdiv_nonneg_eq h0]
  have p2 : (0:Int) ≤ t - t / 3600000000 * 3600000000 := by omega
  rw [rdiv_nonneg_eq p2]
  have p3 : (0:Int) ≤ t - t / 3600000000 * 3600000000 - (t - t / 3600000000 * 3600000000) / 60000000 * 60000000 := by omega
  rw [rdiv_nonneg_eq p3]
  simp only [Prod.mk.injEq]
  refine ⟨trivial, ?_, ?_, ?_⟩ <;> omega

theorem Time.hour_eq (t : Int) (h0 : 0 ≤ t) : Time.hour t = t / 3600000000 := by
  unfold Time.hour USECONDS_PER_HOUR; rw [rdiv_nonneg_eq h0]

theorem Time.minute_eq (t : Int) (h0 : 0 ≤ t) : Time.minute t = t % 3600000000 / 60000000 := by
  unfold Time.minute USECONDS_PER_HOUR USECONDS_PER_MINUTE
  rw [rrem_nonneg_eq h0, rdiv_nonneg_eq (by omega)]

theorem Time.extract_fromHms (h mi s us : Int) (h0 : 0 ≤ h) (hm : 0 ≤ mi ∧ mi < 60) (hs : 0 ≤ s ∧ s < 60)
    (hu : 0 ≤ us ∧ us < 1000000) : Time.extract (Time.fromHmsUnchecked h mi s us) = (h, mi, s, us) := by
  rw [Time.fromHmsUnchecked_eq, Time.extract_eq _ (by omega), Prod.mk.injEq, Prod.mk.injEq, Prod.mk.injEq]
  omega

theorem Time.fromHms_extract (t : Int) (h0 : 0 ≤ t) :
    0 ≤ (Time.extract t).1 ∧ 0 ≤ (Time.extract t).2.1 ∧ (Time.extract t).2.1 < 60 ∧
    0 ≤ (Time.extract t).2.2.1 ∧ (Time.extract t).2.2.1 < 60 ∧
    0 ≤ (Time.extract t).2.2.2 ∧ (Time.extract t).2.2.2 < 1000000 ∧
    Time.fromHmsUnchecked (Time.extract t).1 (Time.extract t).2.1 (Time.extract t).2.2.1 (Time.extract t).2.2.2 = t := by
  rw [Time.extract_eq _ h0, Time.fromHmsUnchecked_eq]
  dsimp only
  omega

/-- Below the days, `IntervalDT::extract` repeats the arithmetic of `Time::extract`. -/
theorem IntervalDT.extract_eq (v : Int) :
    IntervalDT.extract v =
      (if v < 0 then -1 else 1, (v.natAbs : Int) / 86400000000, Time.extract (v.natAbs % 86400000000)) := by
  have e : (if v < 0 then -v else v) = v.natAbs := by omega
  rw [Time.extract_eq _ (by omega)]
  unfold IntervalDT.extract USECONDS_PER_DAY USECONDS_PER_HOUR USECONDS_PER_MINUTE USECONDS_PER_SECOND
  simp only [e, Prod.mk.injEq, true_and]
  generalize (v.natAbs : Int) = a
  refine ⟨?_, ?_, ?_, ?_⟩ <;> omega

/-- `From<Timestamp> for oracle::Date` floors to the second, also before 1970. -/
theorem OracleDate.fromTimestamp_eq (ts : Int) : OracleDate.fromTimestamp ts = ts / 1000000 * 1000000 := by
  unfold OracleDate.fromTimestamp USECONDS_PER_SECOND
  rcases Int.lt_or_le ts 0 with h | h
  · rw [rdiv_neg_eq h]
    dsimp only
    split <;> omega
  · rw [rdiv_nonneg_eq h]
    dsimp only
    split <;> omega

theorem OracleDate.fromTimestamp_valid (ts : Int) (h : isValidTimestamp ts) :
    OracleDate.isValidDate (OracleDate.fromTimestamp ts) := by
  rw [isValidTimestamp_iff] at h
  have hr := rrem_spec (ts / 1000000 * 1000000) 1000000
  rw [OracleDate.fromTimestamp_eq]
  exact ⟨(isValidTimestamp_iff _).2 (by omega), by unfold USECONDS_PER_SECOND; omega⟩

theorem Date.addDays_eq (d k : Int) : Date.addDays d k = Date.tryFromDays (d + k) :=
  checked_gate _ _ fun h => by rw [isValidDate_iff] at h; rw [fitsI32_iff]; omega

theorem Date.subDays_eq (d k : Int) : Date.subDays d k = Date.tryFromDays (d - k) :=
  checked_gate _ _ fun h => by rw [isValidDate_iff] at h; rw [fitsI32_iff]; omega

theorem Date.addDays_ok_valid (d k v : Int) (h : Date.addDays d k = .ok v) : isValidDate v :=
  Chk.gate_valid (Date.addDays_eq d k ▸ h)

theorem Date.subDays_ok_valid (d k v : Int) (h : Date.subDays d k = .ok v) : isValidDate v :=
  Chk.gate_valid (Date.subDays_eq d k ▸ h)

theorem Timestamp.addIntervalDt_eq (ts i : Int) : Timestamp.addIntervalDt ts i = Timestamp.tryFromUsecs (ts + i) :=
  checked_gate _ _ fun h => by rw [isValidTimestamp_iff] at h; rw [fitsI64_iff]; omega

theorem IntervalYM.addIntervalYm_eq (a b : Int) : IntervalYM.addIntervalYm a b = IntervalYM.tryFromMonths (a + b) :=
  checked_gate _ _ fun h => by rw [IntervalYM.isValidMonths_iff] at h; rw [fitsI32_iff]; omega

theorem IntervalDT.addIntervalDt_eq (a b : Int) : IntervalDT.addIntervalDt a b = IntervalDT.tryFromUsecs (a + b) :=
  checked_gate _ _ fun h => by rw [IntervalDT.isValidUsecs_iff] at h; rw [fitsI64_iff]; omega

/-- Whatever `Timestamp::add_days(f64)` returns has passed the range gate; the float part only decides whether the gate
    is reached. -/
theorem Timestamp.addDays_ok_valid (ts : Int) (x : F64) (r : Int) (h : Timestamp.addDays ts x = .ok r) :
    isValidTimestamp r := by
  simp only [Timestamp.addDays, Chk.ite_error_eq_ok] at h
  obtain ⟨-, -, h⟩ := h
  split at h
  · exact Chk.gate_valid h
  · cases h

/-- The timestamp range is the date range, day by day. -/
theorem Date.tryFromDays_midnight (n : Int) :
    (Date.tryFromDays n).map (Timestamp.new · 0) = Timestamp.tryFromUsecs (Timestamp.new n 0) := by
  unfold Date.tryFromDays Timestamp.tryFromUsecs
  by_cases c : isValidDate n
  · rw [if_pos c, if_pos]
    · rfl
    · rw [isValidDate_iff] at c; rw [isValidTimestamp_iff, Timestamp.new_eq]; omega
  · rw [if_neg c, if_neg]
    · rfl
    · rw [isValidDate_iff] at c; rw [isValidTimestamp_iff, Timestamp.new_eq]; omega

theorem Timestamp.trunc_eq (u : TUnit) (x : Int) :
    Timestamp.trunc u x =
      match u with
      | .hour => .ok (x - x % 3600000000)
      | .minute => .ok (x - x % 60000000)
      | u => (Date.trunc u (x / 86400000000)).map (Timestamp.new · 0) := by
  have ht : 0 ≤ x % 86400000000 := by omega
  cases u
  case hour =>
    simp only [Timestamp.trunc, Timestamp.hour, Timestamp.date_eq, Timestamp.time_eq, Time.hour_eq _ ht,
      Timestamp.new, Time.fromHmsUnchecked, USECONDS_PER_DAY, USECONDS_PER_HOUR, USECONDS_PER_MINUTE, USECONDS_PER_SECOND]
    congr 1; omega
  case minute =>
    simp only [Timestamp.trunc, Timestamp.date_eq, Timestamp.time_eq, Time.extract_eq _ ht,
      Timestamp.new, Time.fromHmsUnchecked, USECONDS_PER_DAY, USECONDS_PER_HOUR, USECONDS_PER_MINUTE, USECONDS_PER_SECOND]
    congr 1; omega
  case day => exact Timestamp.date_eq x ▸ rfl
  all_goals exact Timestamp.date_eq x ▸ Chk.bind_pure_eq_map _ _

theorem Timestamp.shiftHalfDay_eq (x : Int) :
    Timestamp.shiftHalfDay x =
      if Time.hour (x % 86400000000) ≥ 12 then Date.addDays (x / 86400000000) 1 else .ok (x / 86400000000) := by
  unfold Timestamp.shiftHalfDay; rw [Timestamp.extract_eq]

/-- Hour and minute are not of this shape (they keep a time of day, with a carry into the next day from 23:30 / 23:59:30):
    `UM.ts_round_hour`, `UM.ts_round_minute` in Lemmas/UnitsModel. -/
theorem Timestamp.round_eq (u : TUnit) (hu : u ≠ .hour ∧ u ≠ .minute) (x : Int) :
    Timestamp.round u x =
      ((match u with
        | .week | .isoWeek | .monthStartWeek | .sundayStartWeek | .day => Timestamp.shiftHalfDay x
        | _ => .ok (x / 86400000000)) >>= Date.round u).map (Timestamp.new · 0) := by
  have wk (f : Int → Chk Int) :
      (Timestamp.shiftHalfDay x >>= fun date => f date >>= fun d => pure (Timestamp.new d 0)) =
        (Timestamp.shiftHalfDay x >>= f).map (Timestamp.new · 0) := by
    rw [Chk.map_bind]; exact congrArg _ (funext fun _ => Chk.bind_pure_eq_map _ _)
  cases u
  case hour => exact absurd rfl hu.1
  case minute => exact absurd rfl hu.2
  case week => exact wk _
  case isoWeek => exact wk _
  case monthStartWeek => exact wk _
  case sundayStartWeek => exact wk _
  case day =>
    -- the model's `if` stands outside the bind: `if … then add_days(1) >>= k else pure date >>= k`
    show _ = (Timestamp.shiftHalfDay x >>= pure).map _
    rw [bind_pure, Timestamp.shiftHalfDay_eq, ← Timestamp.date_eq, ← Timestamp.time_eq, apply_ite (Except.map _)]
    exact congrArg (ite _ · _) (Chk.bind_pure_eq_map _ _)
  all_goals exact Timestamp.date_eq x ▸ Chk.bind_pure_eq_map _ _

end SqlDt
