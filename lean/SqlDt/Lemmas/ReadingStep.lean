/-
  Lemmas/ReadingStep: ONE token of ANY kind — the crate's field step on the text of a fitting lexeme follows `Spec.step`
  (both the success and the error outcome).  The paths on which both sides fail without a look at the text are split
  off first (ReadingConc); what is left goes by the kind of lexeme: the text is brought to the form its leaf parser
  reads (ReadingText, ReadingNames), the clause of `parseField` is run on the leaf's result (ReadingClauses), and the
  state it stores is the state of the components `Spec.step` records.
-/
import SqlDt.Lemmas.ReadingConc
namespace SqlDt.Lemmas
open SqlDt Gen Spec Parser

/-- The facts `Delimited` provides about one item and the text `rest` that follows it: `Spec.itemOK`, clause by
    clause. -/
def LocalOK (ty : Ty) (f : Field) (rest : Bytes) : Lex → Prop
  | .num _ _ z n => Stops (numDigits z n) rest (maxDigits ty f)
  | .frac _ ds => Stops (fracBytes ds) rest (maxDigits ty f)
  | .name _ k true _ => isMonthToken f = true →
    (monthNames.getD (k - 1) []).length ≤ 3 ∨ startsWithCI rest ((monthNames.getD (k - 1) []).drop 3) = false
  | .omitted => eatWhitespaces rest = []
  | _ => True

theorem name_text_month (f : Field) (hf : isMonthToken f = true) (b k : Nat) (abbr : Bool) (mask : List Bool) (rest : Bytes) :
    (Lex.name b k abbr mask).text f ++ rest =
      spaces b ++ (recase mask (if abbr then (monthNames.getD (k - 1) []).take 3 else monthNames.getD (k - 1) []) ++ rest) := by
  cases f <;> simp [isMonthToken] at hf <;> simp [Lex.text, fullName, namesOf, List.append_assoc]

theorem eatWs_numText (f : Field) (b : Nat) (sg : Sign) (z n k : Nat) (rest : Bytes) (h : Run (numDigits z n) k (n : Int)) :
    eatWhitespaces ((Lex.num b sg z n).text f ++ rest) = sg.text ++ (numDigits z n ++ rest) := by
  have : (Lex.num b sg z n).text f ++ rest = spaces b ++ (sg.text ++ (numDigits z n ++ rest)) := by
    simp [Lex.text, numDigits, List.append_assoc]
  rw [this, eatWs_spaces, eatWs_signed h]

section
variable (ty : Ty) (now : Clock) (p : Parts) (s : Bytes) (r : Nat) (f : Field) (rest : Bytes)
  (happ : applicable ty f = true) (htk : taken p f = false)
include happ htk

theorem step_num (b : Nat) (sg : Sign) (z n : Nat)
    (hfit : (Lex.num b sg z n).fits ty f = true) (hstop : Stops (numDigits z n) rest (maxDigits ty f))
    (hs : eatWhitespaces s = eatWhitespaces ((Lex.num b sg z n).text f ++ rest)) :
    StepGoal ty now p s r f (.num b sg z n) rest := by
  unfold StepGoal
  cases f <;> simp only [Lex.fits, happ, Bool.not_true, Bool.false_eq_true, ↓reduceIte, Bool.and_eq_true,
    decide_eq_true_eq] at hfit
  all_goals
    have hrun := run_numDigits z n _ hfit.1 hfit.2
    rw [eatWs_numText _ _ _ _ _ _ _ hrun] at hs
    have hne := signed_nonempty hrun sg rest
    have hp := parseNumber_lex hrun sg rest hstop
    simp only [taken] at htk
    simp only [step, happ, htk, Bool.not_true, Bool.false_eq_true, ↓reduceIte]
  case Minute =>
    rw [parseField_minute ty now (conc ty p s r) hs hne ((info_hasTime ty).trans happ) htk hp]
    cases isMinus sg
    · exact .some ⟨rest, r, rfl, rfl⟩
    · exact .none
  case Second =>
    rw [parseField_second ty now (conc ty p s r) hs hne ((info_hasTime ty).trans happ) htk hp]
    cases isMinus sg
    · exact .some ⟨rest, r, rfl, rfl⟩
    · exact .none
  case Month =>
    rw [parseField_month ty now (conc ty p s r) hs (by rw [info_hasDate, info_ym]; exact happ) htk hp]
    cases isMinus sg
    · exact .some ⟨rest, r, rfl, rfl⟩
    · exact .none
  case DayOfYear =>
    rw [parseField_doy ty now (conc ty p s r) hs ((info_hasDate ty).trans happ) (by simpa [conc] using htk) hp]
    cases isMinus sg
    · exact .some ⟨rest, r, rfl, rfl⟩
    · exact .none
  case Hour24 =>
    simp only [Bool.or_eq_false_iff] at htk
    rw [parseField_hour24 ty now (conc ty p s r) hs hne ((info_hasTime ty).trans happ) (by simpa [conc] using htk.1)
      htk.2 hp]
    cases isMinus sg
    · exact .some ⟨rest, r, rfl, rfl⟩
    · exact .none
  case Hour12 =>
    rw [parseField_hour12 ty now (conc ty p s r) hs hne (by rw [info_hasTime, info_dt, ← clock12_eq]; exact happ)
      (by simpa [conc] using htk) hp]
    cases isMinus sg
    · simp only [Bool.false_eq_true, ↓reduceIte, false_or, Bool.false_or, Bool.or_eq_true, decide_eq_true_eq]
      by_cases hr : n < 1 ∨ n > 12
      · rw [if_pos hr, if_pos (by omega)]
        exact .none
      · rw [if_neg hr, if_neg (by omega), conc_hour12]
        exact .some ⟨rest, r, rfl, rfl⟩
    · exact .none
  case Day =>
    have hty : hasDate ty = (ty != .DT) ∧ ty ≠ .YM := by cases ty <;> simp [applicable, hasDate] at happ ⊢
    have habs : ∀ neg : Bool, (if (if neg = true then -(n : Int) else n) < 0 then -(if neg = true then -(n : Int) else n)
        else (if neg = true then -(n : Int) else n)) = n := by
      intro neg; cases neg <;> simp
    rw [parseField_day ty now (conc ty p s r) hs (by rw [info_hasDate, info_dt]; exact happ) htk hp, info_hasDate, hty.1,
      habs]
    cases (isMinus sg && ty != .DT)
    · exact .some ⟨rest, r, by simp [conc, yearRep, dayRep, hourOf, hty.2], rfl⟩
    · exact .none
  case Year w =>
    by_cases hty : ty = .YM
    · subst hty
      have hy := parseYear_ym sg z n rest now hrun hstop
      rw [parseField_year .YM now (conc .YM p s r) hs rfl htk hy, show (Ty.YM).info.HAS_DATE = false from rfl,
        show (Ty.YM != Ty.YM) = false from rfl, Bool.and_false]
      exact .some ⟨rest, r, by cases isMinus sg <;> simp [conc, yearRep, dayRep, completeYear, hourOf], rfl⟩
    · have hd : ty.info.HAS_DATE = true := by rw [info_hasDate]; simpa [applicable, hty] using happ
      have hym : ty.info.IS_INTERVAL_YM = false := by rw [info_ym]; simp [hty]
      have hmd : maxDigits ty (.Year w) = if w = 2 then 4 else w := by simp [maxDigits, hty]
      rw [hmd] at hrun hstop
      obtain ⟨y, rd, hy, hcomp⟩ := parseYear_date ty hty w sg z n rest now hrun hstop
      rw [parseField_year ty now (conc ty p s r) hs (by rw [hd]; rfl) htk (by rw [hym]; exact hy), hd,
        show (ty != Ty.YM) = true by simp [hty]]
      cases hm : isMinus sg
      · rw [hcomp hm]
        exact .some ⟨rest, if rd = true then 1 else r, by simp [conc, yearRep, dayRep, hourOf, hty], rfl⟩
      · exact .none

theorem step_name (b k : Nat) (abbr : Bool) (mask : List Bool) (hfit : (Lex.name b k abbr mask).fits ty f = true)
    (hdel : abbr = true → isMonthToken f = true →
      (monthNames.getD (k - 1) []).length ≤ 3 ∨ startsWithCI rest ((monthNames.getD (k - 1) []).drop 3) = false)
    (hs : eatWhitespaces s = eatWhitespaces ((Lex.name b k abbr mask).text f ++ rest)) :
    StepGoal ty now p s r f (.name b k abbr mask) rest := by
  unfold StepGoal
  cases f <;> simp [Lex.fits, happ] at hfit <;> simp only [taken] at htk <;>
    simp only [step, happ, htk, Bool.not_true, Bool.false_eq_true, ↓reduceIte]
  case Month =>
    have hhead := month_base_head k hfit abbr
    rw [name_text_month _ rfl, eatWs_spaces, eatWs_name _ _ _ hhead] at hs
    have hpn := parseNumber_name mask _ rest ty.info.MONTH_MAX_LENGTH hhead
    have hpm := parseMonthName_lex k hfit abbr mask rest (fun ha => hdel ha rfl)
    rw [parseField_month_name ty now (conc ty p s r) hs (by rw [info_hasDate, info_ym]; exact happ) htk hpn hpm]
    exact .some ⟨rest, r, rfl, rfl⟩
  case MonthName st =>
    rw [name_text_month _ rfl, eatWs_spaces, eatWs_name _ _ _ (month_base_head k hfit abbr)] at hs
    have hpm := parseMonthName_lex k hfit abbr mask rest (fun ha => hdel ha rfl)
    rw [parseField_monthName ty now (conc ty p s r) hs st ((info_hasDate ty).trans happ) htk hpm]
    exact .some ⟨rest, r, rfl, rfl⟩
  case DayName st =>
    obtain ⟨hk, rfl⟩ := hfit
    have htext : (Lex.name b k (isAbbrStyle st) mask).text (.DayName st) ++ rest = spaces b ++
        (recase mask (if isAbbrStyle st then (dayNames.getD (k - 1) []).take 3 else dayNames.getD (k - 1) []) ++ rest) := by
      simp [Lex.text, fullName, namesOf, List.append_assoc]
    rw [htext, eatWs_spaces, eatWs_name _ _ _ (day_base_head k hk _)] at hs
    have hpw := parseWeekDayName_lex st k hk mask rest
    rw [parseField_dayName ty now (conc ty p s r) hs st ((info_hasDate ty).trans happ) (by simpa [conc] using htk) hpw]
    exact .some ⟨rest, r, by simp [conc, yearRep, dayRep, hourOf], rfl⟩

theorem step_meridian (hmi : p.meridian.isSome = true → p.meridianSeen = true) (b : Nat) (pm : Bool) (mask : List Bool)
    (hfit : (Lex.meridian b pm mask).fits ty f = true)
    (hs : eatWhitespaces s = eatWhitespaces ((Lex.meridian b pm mask).text f ++ rest)) :
    StepGoal ty now p s r f (.meridian b pm mask) rest := by
  unfold StepGoal
  cases f <;> simp [Lex.fits, happ] at hfit
  rename_i st
  simp only [taken, Bool.or_eq_false_iff] at htk
  obtain ⟨hmer, h24⟩ := meridian_free hmi htk
  have htext : (Lex.meridian b pm mask).text (.AmPm st) ++ rest =
      spaces b ++ (recase mask (meridianBase (dotted (.AmPm st)) pm) ++ rest) := by
    simp [Lex.text, List.append_assoc]
  rw [htext, eatWs_spaces, eatWs_meridian] at hs
  have hpa := parseAmPm_lex st pm mask rest
  rw [parseField_ampm ty now (conc ty p s r) hs st (by rw [info_hasTime, info_dt, ← clock12_eq]; exact happ) htk.1 h24
    hpa]
  simp only [step, happ, htk, Bool.or_self, Bool.not_true, Bool.false_eq_true, Option.isSome_some, ↓reduceIte]
  rw [conc_ampm ty p s r pm hmer htk.2]
  exact .some ⟨rest, r, rfl, rfl⟩

theorem step_frac (hwf : Field.WellFormed f) (b : Nat) (ds : List Nat) (hfit : (Lex.frac b ds).fits ty f = true)
    (hstop : Stops (fracBytes ds) rest (maxDigits ty f))
    (hs : eatWhitespaces s = eatWhitespaces ((Lex.frac b ds).text f ++ rest)) :
    StepGoal ty now p s r f (.frac b ds) rest := by
  unfold StepGoal
  cases f <;> simp [Lex.fits, happ] at hfit
  rename_i q
  obtain ⟨⟨h1, hk⟩, hall⟩ := hfit
  have htext : (Lex.frac b ds).text (.Fraction q) ++ rest = spaces b ++ (fracBytes ds ++ rest) := by
    simp [Lex.text, fracBytes, List.append_assoc]
  have hall' : ds.all (· ≤ 9) = true := by simpa [List.all_eq_true] using hall
  rw [htext, eatWs_spaces, eatWs_frac ds rest h1 hall'] at hs
  have hq9 : q.getD 9 ≤ 9 := by
    cases q with
    | none => simp
    | some v => simp [Field.WellFormed] at hwf; simpa using hwf.2
  have hpf := parseFraction_lex ds rest (q.getD 9) h1 hk hq9 hall' hstop
  simp only [taken] at htk
  rw [parseField_fraction ty now (conc ty p s r) hs q ((info_hasFraction ty).trans happ) htk hpf]
  simp only [step, happ, htk, Bool.not_true, Bool.false_eq_true, ↓reduceIte]
  exact .some ⟨rest, r, by simp [conc, yearRep, dayRep, hourOf], rfl⟩

theorem step_dow (b d : Nat) (hfit : (Lex.dowNum b d).fits ty f = true)
    (hs : eatWhitespaces s = eatWhitespaces ((Lex.dowNum b d).text f ++ rest)) :
    StepGoal ty now p s r f (.dowNum b d) rest := by
  unfold StepGoal
  cases f <;> simp [Lex.fits, happ] at hfit
  have htext : (Lex.dowNum b d).text .DayOfWeek ++ rest = spaces b ++ ((d + 48) :: rest) := by
    simp [Lex.text, List.append_assoc]
  rw [htext, eatWs_spaces, eatWs_nonws _ _ (by simp [isWhitespaceB])] at hs
  simp only [taken] at htk
  rw [parseField_dow ty now (conc ty p s r) hs ((info_hasDate ty).trans happ) (by simpa [conc] using htk),
    parseWeekDayNumber_lex d rest hfit]
  simp only [step, happ, htk, Bool.not_true, Bool.false_eq_true, ↓reduceIte]
  by_cases hr : 1 ≤ d ∧ d ≤ 7
  · rw [if_neg (by simp; omega), if_pos hr]
    exact .some ⟨rest, r, by simp [conc, yearRep, dayRep, hourOf], rfl⟩
  · rw [if_pos (by simp; omega), if_neg hr]
    exact .none

end

theorem step_blank (ty : Ty) (now : Clock) (p : Parts) (s : Bytes) (r : Nat) (k c : Nat) (rest : Bytes)
    (hs : eatWhitespaces s = eatWhitespaces ((Lex.blank c).text (.Blank k) ++ rest)) :
    StepGoal ty now p s r (.Blank k) (.blank c) rest := by
  unfold StepGoal step
  simp only [applicable, Bool.not_true, Bool.false_eq_true, ↓reduceIte]
  refine .some ⟨eatWhitespaces s, r, rfl, ?_⟩
  rw [eatWs_idem, hs]
  simp only [Lex.text, eatWs_spaces]

theorem step_punctuation (ty : Ty) (now : Clock) (p : Parts) (f : Field) (ch : Nat) (hf : punctChar f = some ch) (l : Lex) :
    step ty now p f l = some p := by
  cases f <;> simp [punctChar] at hf <;> rfl

theorem step_punct (ty : Ty) (now : Clock) (p : Parts) (s : Bytes) (r : Nat) (f : Field) (ch : Nat)
    (hf : punctChar f = some ch) (b : Nat) (rest : Bytes)
    (hs : eatWhitespaces s = eatWhitespaces ((Lex.punct b).text f ++ rest)) :
    StepGoal ty now p s r f (.punct b) rest := by
  have hws : isWhitespaceB ch = false := by
    cases f <;> simp [punctChar] at hf <;> subst hf <;> decide
  simp only [Lex.text, hf, Option.toList_some, List.append_assoc, eatWs_spaces] at hs
  rw [List.singleton_append, eatWs_nonws ch rest hws] at hs
  unfold StepGoal
  rw [step_punctuation ty now p f ch hf, parseField_punct ty now (conc ty p s r) hs f ch hf]
  simp only [expectChar, ↓reduceIte]
  exact .some ⟨rest, r, rfl, rfl⟩

theorem step_punct_omitted (ty : Ty) (now : Clock) (p : Parts) (s : Bytes) (r : Nat) (f : Field)
    (hf : f = .Hyphen ∨ f = .Colon ∨ f = .Dot) (rest : Bytes)
    (hs : eatWhitespaces s = []) (hrest : eatWhitespaces rest = []) :
    StepGoal ty now p s r f .omitted rest := by
  obtain ⟨ch, hch⟩ : ∃ ch, punctChar f = some ch := by rcases hf with rfl | rfl | rfl <;> exact ⟨_, rfl⟩
  unfold StepGoal
  rw [step_punctuation ty now p f ch hch, parseField_punct ty now (conc ty p s r) hs f ch hch]
  simp only [expectChar, hf, decide_true, ↓reduceIte]
  exact .some ⟨[], r, rfl, hrest.symm⟩

theorem step_omitted (ty : Ty) (now : Clock) (p : Parts) (s : Bytes) (r : Nat) (f : Field) (rest : Bytes)
    (happ : applicable ty f = true) (htk : taken p f = false)
    (hmi : p.meridian.isSome = true → p.meridianSeen = true) (hfit : Lex.omitted.fits ty f = true)
    (hs : eatWhitespaces s = []) (hrest : eatWhitespaces rest = []) :
    StepGoal ty now p s r f .omitted rest := by
  have hr : eatWhitespaces ([] : Bytes) = eatWhitespaces rest := hrest.symm
  cases f <;> simp [Lex.fits, happ, mayOmit] at hfit
  case Hyphen => exact step_punct_omitted ty now p s r _ (by simp) rest hs hrest
  case Colon => exact step_punct_omitted ty now p s r _ (by simp) rest hs hrest
  case Dot => exact step_punct_omitted ty now p s r _ (by simp) rest hs hrest
  all_goals
    unfold StepGoal
    simp only [taken] at htk
    simp only [step, happ, htk, Bool.not_true, Bool.false_eq_true, ↓reduceIte]
  case Hour24 =>
    simp only [Bool.or_eq_false_iff] at htk
    rw [parseField_hour24_end ty now (conc ty p s r) hs (by rw [info_dt]; simp [hfit]) ((info_hasTime ty).trans happ)
      (by simpa [conc] using htk.1) htk.2]
    exact .some ⟨[], r, by simp [conc, yearRep, dayRep, hourOf], hr⟩
  case Hour12 =>
    obtain ⟨ht, hty⟩ := hasTime_of_clock12 ty happ
    rw [parseField_hour12_end ty now (conc ty p s r) hs (by rw [info_dt]; simp [hty]) ((info_hasTime ty).trans ht)
      (by simpa [conc] using htk), show (12 : Int) = ((12 : Nat) : Int) from rfl, conc_hour12]
    exact .some ⟨[], r, rfl, hr⟩
  case Minute =>
    rw [parseField_minute_end ty now (conc ty p s r) hs (by rw [info_dt]; simp [hfit]) ((info_hasTime ty).trans happ)
      htk]
    exact .some ⟨[], r, rfl, hr⟩
  case Second =>
    rw [parseField_second_end ty now (conc ty p s r) hs (by rw [info_dt]; simp [hfit]) ((info_hasTime ty).trans happ)
      htk]
    exact .some ⟨[], r, rfl, hr⟩
  case Fraction q =>
    rw [parseField_fraction ty now (conc ty p s r) hs q ((info_hasFraction ty).trans happ) htk rfl]
    exact .some ⟨[], r, rfl, hr⟩
  case AmPm st =>
    simp only [Bool.or_eq_false_iff] at htk
    obtain ⟨hmer, h24⟩ := meridian_free hmi htk
    rw [parseField_ampm ty now (conc ty p s r) hs st (by rw [info_hasTime, info_dt, ← clock12_eq]; exact happ) htk.1 h24
      rfl]
    exact .some ⟨[], r, by simp [conc, yearRep, dayRep, hourOf, hmer], hr⟩

theorem step_sound (ty : Ty) (now : Clock) (p : Parts) (st : St) (f : Field) (l : Lex) (rest : Bytes)
    (hwf : Field.WellFormed f) (hfit : l.fits ty f = true) (hloc : LocalOK ty f rest l)
    (hmi : p.meridian.isSome = true → p.meridianSeen = true) (htr : Tracks ty (l.text f ++ rest) p st) :
    Option.Rel (Tracks ty rest) (step ty now p f l) (Chk.val? (parseField ty now st f)) := by
  obtain ⟨s, r, rfl, hs⟩ := htr
  show StepGoal ty now p s r f l rest
  by_cases hb : (!applicable ty f || taken p f) = true
  · unfold StepGoal
    rw [step_blocked ty now p f l hb, parseField_blocked ty now p s r f hb]
    exact .none
  simp only [Bool.not_eq_true, Bool.or_eq_false_iff, Bool.not_eq_false'] at hb
  obtain ⟨happ, htk⟩ := hb
  cases l with
  | num b sg z n => exact step_num ty now p s r f rest happ htk b sg z n hfit hloc hs
  | name b k abbr mask =>
    exact step_name ty now p s r f rest happ htk b k abbr mask hfit (fun ha hm => by subst ha; exact hloc hm) hs
  | meridian b pm mask => exact step_meridian ty now p s r f rest happ htk hmi b pm mask hfit hs
  | frac b ds => exact step_frac ty now p s r f rest happ htk hwf b ds hfit hloc hs
  | punct b =>
    cases f <;> simp [Lex.fits, happ] at hfit <;> exact step_punct ty now p s r _ _ rfl _ rest hs
  | blank c =>
    cases f <;> simp [Lex.fits, happ] at hfit
    exact step_blank ty now p s r _ _ rest hs
  | dowNum b d => exact step_dow ty now p s r f rest happ htk b d hfit hs
  | omitted =>
    have hrest : eatWhitespaces rest = [] := hloc
    exact step_omitted ty now p s r f rest happ htk hmi hfit (by rw [hs]; simpa [Lex.text] using hrest) hrest

end SqlDt.Lemmas
