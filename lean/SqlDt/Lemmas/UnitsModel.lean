/-
  Lemmas/UnitsModel: the crate's truncation / rounding code (Model/Types: table lookups, Julian-day arithmetic,
  truncating `%`) computes the calendar-level closed forms of Spec/Units, for every real date of years 1..9999
  and every valid timestamp.  Dates, one lemma per unit: a calendar unit returns `fromYmdUnchecked Y M 1` behind a year
  gate (`from_first_gate`); a week unit subtracts an offset, directly or through a `(method, offset)` table
  (`applyWeekTable_eq`; `weekTables` evaluates the tables).  Timestamps: `Timestamp.trunc` / `round` are the date
  operation on the (deciding) day, set back to midnight (`Timestamp.trunc_eq`, `Timestamp.round_eq` in Lemmas/Div).
-/
import SqlDt.Lemmas.UnitsSpec
import SqlDt.Props.C01
namespace SqlDt.Lemmas
open SqlDt Gen Spec Cal USpec

namespace UM

theorem inRangeDay_eq (b : Int) : inRangeDay b = Date.tryFromDays b := (C01.tryFromDays_spec b).symm

theorem subDays_eq (d k : Int) : Date.subDays d k = inRangeDay (d - k) := by rw [Date.subDays_eq, inRangeDay_eq]

theorem addDays_eq (d k : Int) : Date.addDays d k = inRangeDay (d + k) := by rw [Date.addDays_eq, inRangeDay_eq]

theorem ok_eq_inRange (n : Int) (h : -719162 ≤ n ∧ n ≤ 2932896) : (.ok n : Chk Int) = inRangeDay n :=
  (if_pos h).symm

theorem inRange_err (n : Int) (h : 2932896 < n) : inRangeDay n = .error .DateOutOfRange :=
  if_neg (fun c : -719162 ≤ n ∧ n ≤ 2932896 => by omega)

theorem eq_of_inRangeDay {b v : Int} (h : inRangeDay b = .ok v) : v = b := by
  unfold inRangeDay at h
  split at h
  · exact (Except.ok.inj h).symm
  · cases h

theorem extract_and_bounds {y m d : Int} (h : ValidYMD y m d) :
    Date.extract (dayNumber y m d) = (y, m, d) ∧ (-719162 ≤ dayNumber y m d ∧ dayNumber y m d ≤ 2932896) ∧
    1 ≤ y ∧ y ≤ 9999 ∧ 1 ≤ m ∧ m ≤ 12 ∧ 1 ≤ d :=
  ⟨extract_dayNumber y m d h.2.2, dayNumber_range y m d h, h.1, h.2.1, h.2.2.1, h.2.2.2.1, h.2.2.2.2.1⟩

/-- The first of a month behind the `year > DATE_MAX_YEAR` gate of the roundings is the range check of the spec
    (year 10000 starts the day after the last supported one). -/
theorem from_first_gate (Y m : Int) (hY : 1 ≤ Y) (hm : 1 ≤ m ∧ m ≤ 12) :
    (if 9999 < Y then .error .DateOutOfRange else .ok (Date.fromYmdUnchecked Y m 1) : Chk Int) =
      inRangeDay (dayNumber Y m 1) := by
  by_cases c : 9999 < Y
  · have := le_max_iff (isDate_first Y m hm)
    rw [if_pos c, inRange_err _ (by omega)]
  · rw [if_neg c, fromYmd_eq_dayNumber Y m 1 (by omega) hm]
    exact ok_eq_inRange _ (dayNumber_range Y m 1 ⟨hY, by omega, isDate_first Y m hm⟩)

theorem from_first (Y m : Int) (hY : 1 ≤ Y ∧ Y ≤ 9999) (hm : 1 ≤ m ∧ m ≤ 12) :
    (.ok (Date.fromYmdUnchecked Y m 1) : Chk Int) = inRangeDay (dayNumber Y m 1) := by
  rw [← from_first_gate Y m hY.1 hm, if_neg (by omega)]

/-- Lets `decide` check a property of the integers `lo, …, lo + n - 1` one by one: the rows of a table. -/
theorem forall_range {P : Int → Prop} (lo : Int) (n : Nat) (h : ∀ k : Fin n, P (lo + k)) (i : Int)
    (h0 : lo ≤ i) (h1 : i < lo + n) : P i := by
  have := h ⟨(i - lo).toNat, by omega⟩
  rwa [show lo + (((⟨(i - lo).toNat, by omega⟩ : Fin n) : Nat) : Int) = i by
    show lo + ((i - lo).toNat : Int) = i; omega] at this

/-- Month 13 stands for January of the next year, which is how the crate's year bump reads. -/
theorem quarterTables (m : Int) (hm : 1 ≤ m ∧ m ≤ 12) :
    idx QUARTER_FIRST_MONTH (m - 1) = .ok ((m - 1) / 3 * 3 + 1) ∧
    idx QUARTER_TRUNC_MONTH (m - 1) = .ok ((m + 1 - 1) / 3 * 3 % 12 + 1) ∧
    idx QUARTER_ROUND_MONTH (m - 1) = .ok ((m + 2 - 1) / 3 * 3 % 12 + 1) := by
  apply forall_range 1 12 ?_ m hm.1 (by omega)
  decide

theorem trunc_century (y m d : Int) (h : ValidYMD y m d) :
    Date.trunc .century (dayNumber y m d) = inRangeDay (truncOf .century (y, m, d) (dayNumber y m d)) := by
  obtain ⟨he, hr, hy1, hy2, hm1, hm2, hd1⟩ := extract_and_bounds h
  simp only [Date.trunc, Date.truncCentury, Date.year, he, truncOf]
  rw [rrem_nonneg_eq (by omega)]
  have e : rdiv (if y % 100 = 0 then y - 1 else y) 100 * 100 + 1 = (y - 1) / 100 * 100 + 1 := by
    split
    · rw [rdiv_nonneg_eq (by omega)]
    · rw [rdiv_nonneg_eq (by omega)]; omega
  rw [e]
  exact from_first _ 1 (by omega) (by omega)

theorem trunc_year (y m d : Int) (h : ValidYMD y m d) :
    Date.trunc .year (dayNumber y m d) = inRangeDay (truncOf .year (y, m, d) (dayNumber y m d)) := by
  obtain ⟨he, hr, hy1, hy2, hm1, hm2, hd1⟩ := extract_and_bounds h
  simp only [Date.trunc, Date.truncYear, Date.year, he, truncOf]
  exact from_first _ 1 (by omega) (by omega)

theorem trunc_month (y m d : Int) (h : ValidYMD y m d) :
    Date.trunc .month (dayNumber y m d) = inRangeDay (truncOf .month (y, m, d) (dayNumber y m d)) := by
  obtain ⟨he, hr, hy1, hy2, hm1, hm2, hd1⟩ := extract_and_bounds h
  simp only [Date.trunc, Date.truncMonth, he, truncOf]
  exact from_first _ m (by omega) (by omega)

theorem trunc_quarter (y m d : Int) (h : ValidYMD y m d) :
    Date.trunc .quarter (dayNumber y m d) = inRangeDay (truncOf .quarter (y, m, d) (dayNumber y m d)) := by
  obtain ⟨he, hr, hy1, hy2, hm1, hm2, hd1⟩ := extract_and_bounds h
  simp only [Date.trunc, Date.truncQuarter, he, truncOf, (quarterTables m ⟨hm1, hm2⟩).1]
  exact from_first _ _ (by omega) (by omega)

/-- How far back the nearer end of a 7-day week lies from a day `o` days into it (negative: forward);
    the later end from the fifth day on. -/
def nearer7 (o : Int) : Int := if o ≥ 4 then o - 7 else o

/-- What row `i` of a `(method, offset)` table subtracts (`(false, _)` rows leave the day alone). -/
def shiftAt (tbl : List (Bool × Int)) (i : Int) : Chk Int := (idx tbl i).map fun r => if r.1 then r.2 else 0

theorem applyWeekTable_eq (tbl : List (Bool × Int)) (i n s : Int) (hn : -719162 ≤ n ∧ n ≤ 2932896)
    (hs : shiftAt tbl i = .ok s) : Date.applyWeekTable tbl i n = inRangeDay (n - s) := by
  unfold Date.applyWeekTable
  unfold shiftAt at hs
  cases hi : idx tbl i with
  | error e => rw [hi] at hs; cases hs
  | ok r =>
    obtain ⟨isSub, k⟩ := r
    rw [hi] at hs
    cases hs
    cases isSub
    · exact (ok_eq_inRange n hn).trans (congrArg inRangeDay (Int.sub_zero n).symm)
    · exact subDays_eq n k

/-- `i` = 0..6; the weekday-indexed tables are read at `dayOfWeek` = 1..7.  The users project: `.1` week, `.2.1` month-start
    week, `.2.2.1` Sunday week, `.2.2.2.1` ISO week (round), `.2.2.2.2.1` ISO year, `.2.2.2.2.2` ISO week (trunc). -/
theorem weekTables (i : Int) (hi : 0 ≤ i ∧ i < 7) :
    shiftAt WEEK_TABLE i = .ok (nearer7 i) ∧
    shiftAt MONTH_START_WEEK_TABLE i = .ok (nearer7 ((i + 6) % 7)) ∧
    shiftAt SUNDAY_START_WEEK_TABLE (i + 1) = .ok (nearer7 i) ∧
    shiftAt ROUND_ISO_WEEK_TABLE (i + 1) = .ok (nearer7 ((i + 6) % 7)) ∧
    shiftAt ISO_YEAR_TABLE (i + 1) = .ok (nearer7 ((i + 6) % 7)) ∧
    shiftAt TRUNC_ISO_WEEK_TABLE (i + 1) = .ok ((i + 6) % 7) := by
  apply forall_range 0 7 ?_ i hi.1 (by omega)
  decide

/-- The week roundings of the spec go to the nearer end of the week that `truncOf` starts; so does a table row that
    subtracts `nearer7 o`, where `o` is the day's offset into that week. -/
theorem round_by_table (u : TUnit) (hu : u = .week ∨ u = .isoWeek ∨ u = .monthStartWeek ∨ u = .sundayStartWeek)
    (tbl : List (Bool × Int)) (i n o : Int) (ymd : Int × Int × Int) (hn : -719162 ≤ n ∧ n ≤ 2932896)
    (hs : shiftAt tbl i = .ok (nearer7 o)) (ho : o = n - truncOf u ymd n) :
    Date.applyWeekTable tbl i n = inRangeDay (roundOf u ymd n) := by
  rw [applyWeekTable_eq _ _ _ _ hn hs, ho]
  congr 1
  rcases hu with rfl | rfl | rfl | rfl <;> (simp only [roundOf, nearer7]; split <;> omega)

theorem trunc_week (y m d : Int) (h : ValidYMD y m d) :
    Date.trunc .week (dayNumber y m d) = inRangeDay (truncOf .week (y, m, d) (dayNumber y m d)) := by
  obtain ⟨he, hr, hy1, hy2, hm1, hm2, hd1⟩ := extract_and_bounds h
  have hp := in_year h.2.2
  simp only [Date.trunc, Date.truncWeek, Date.year, he, truncOf, Date.subDate]
  rw [fromYmd_eq_dayNumber y 1 1 (by omega) (by omega), rrem_nonneg_eq (by omega), subDays_eq]

theorem trunc_isoWeek (y m d : Int) (h : ValidYMD y m d) :
    Date.trunc .isoWeek (dayNumber y m d) = inRangeDay (truncOf .isoWeek (y, m, d) (dayNumber y m d)) := by
  obtain ⟨he, hr, -⟩ := extract_and_bounds h
  simp only [Date.trunc, Date.truncIsoWeek, truncOf]
  rw [C01.dayOfWeek_eq, applyWeekTable_eq _ _ _ _ hr (weekTables _ (by omega)).2.2.2.2.2]
  congr 2; omega

theorem trunc_sunday (y m d : Int) :
    Date.trunc .sundayStartWeek (dayNumber y m d) = inRangeDay (truncOf .sundayStartWeek (y, m, d) (dayNumber y m d)) := by
  simp only [Date.trunc, Date.truncSundayStartWeek, truncOf]
  rw [C01.dayOfWeek_eq, subDays_eq]
  congr 2; omega

theorem trunc_msw (y m d : Int) (h : ValidYMD y m d) :
    Date.trunc .monthStartWeek (dayNumber y m d) = inRangeDay (truncOf .monthStartWeek (y, m, d) (dayNumber y m d)) := by
  obtain ⟨he, hr, hy1, hy2, hm1, hm2, hd1⟩ := extract_and_bounds h
  simp only [Date.trunc, Date.truncMonthStartWeek, Date.day, he, truncOf]
  rw [rrem_nonneg_eq (by omega), subDays_eq]
  congr 2
  split <;> omega

theorem round_week (y m d : Int) (h : ValidYMD y m d) :
    Date.round .week (dayNumber y m d) = inRangeDay (roundOf .week (y, m, d) (dayNumber y m d)) := by
  obtain ⟨he, hr, hy1, hy2, hm1, hm2, hd1⟩ := extract_and_bounds h
  have hp := in_year h.2.2
  simp only [Date.round, Date.roundWeek, Date.roundWeekInternal, Date.year, he, Date.subDate]
  rw [fromYmd_eq_dayNumber y 1 1 (by omega) (by omega), rrem_nonneg_eq (by omega)]
  exact round_by_table .week (by simp) _ _ _ _ _ hr (weekTables _ (by omega)).1 (by simp only [truncOf]; omega)

theorem round_isoWeek (y m d : Int) (h : ValidYMD y m d) :
    Date.round .isoWeek (dayNumber y m d) = inRangeDay (roundOf .isoWeek (y, m, d) (dayNumber y m d)) := by
  obtain ⟨he, hr, -⟩ := extract_and_bounds h
  simp only [Date.round, Date.roundIsoWeek]
  rw [C01.dayOfWeek_eq]
  exact round_by_table .isoWeek (by simp) _ _ _ _ _ hr (weekTables _ (by omega)).2.2.2.1 (by simp only [truncOf]; omega)

theorem round_sunday (y m d : Int) (h : ValidYMD y m d) :
    Date.round .sundayStartWeek (dayNumber y m d) =
      inRangeDay (roundOf .sundayStartWeek (y, m, d) (dayNumber y m d)) := by
  obtain ⟨he, hr, -⟩ := extract_and_bounds h
  simp only [Date.round, Date.roundSundayStartWeek]
  rw [C01.dayOfWeek_eq]
  exact round_by_table .sundayStartWeek (by simp) _ _ _ _ _ hr (weekTables _ (by omega)).2.2.1
    (by simp only [truncOf]; omega)

theorem round_msw (y m d : Int) (h : ValidYMD y m d) :
    Date.round .monthStartWeek (dayNumber y m d) =
      inRangeDay (roundOf .monthStartWeek (y, m, d) (dayNumber y m d)) := by
  obtain ⟨he, hr, hy1, hy2, hm1, hm2, hd1⟩ := extract_and_bounds h
  simp only [Date.round, Date.roundMonthStartWeek, Date.roundMonthStartWeekInternal, Date.day, he]
  rw [rrem_nonneg_eq (by omega)]
  exact round_by_table .monthStartWeek (by simp) _ _ _ _ _ hr (weekTables _ (by omega)).2.1
    (by simp only [truncOf]; omega)

theorem wdj_eq (j : Int) (h : 0 ≤ j) : Date.weekDayOfJulian j = j % 7 := by
  unfold Date.weekDayOfJulian
  rw [rrem_nonneg_eq h]
  exact if_neg (by omega)

theorem dby_zero : daysBeforeYear 0 = -366 := by decide

theorem jan4_julian (Y : Int) (hY : 0 ≤ Y) :
    date2julian Y 1 4 = dayNumber Y 1 4 + 2440588 ∧
    date2julian Y 1 4 - Date.weekDayOfJulian (date2julian Y 1 4) = isoYearStart Y + 2440588 := by
  have e := date2julian_eq_dayNumber Y 1 4 hY (by omega)
  have a := dby_mono 0 Y hY
  rw [dby_zero] at a
  have j := dayNumber_jan Y 4
  refine ⟨e, ?_⟩
  rw [wdj_eq _ (by omega), e]
  unfold isoYearStart
  simp only []
  omega

theorem iso_succ (Y : Int) : isoYearStart Y + 364 ≤ isoYearStart (Y + 1) ∧ isoYearStart (Y + 1) ≤ isoYearStart Y + 371 := by
  unfold isoYearStart; rw [dayNumber_jan, dayNumber_jan, dby_succ]; simp only []
  have := leapI_spec Y
  omega

theorem iso_one : isoYearStart 1 = -719162 := by decide

theorem iso_10000 : isoYearStart 10000 = 2932899 := by decide

theorem dateToIsoYear_eq (y m d : Int) (h : ValidYMD y m d) :
    Date.dateToIsoYear (dayNumber y m d) =
      if isoYearStart (y + 1) ≤ dayNumber y m d then y + 1
      else if isoYearStart y ≤ dayNumber y m d then y else y - 1 := by
  obtain ⟨he, hr, hy1, hy2, -⟩ := extract_and_bounds h
  have hp := in_year h.2.2
  obtain ⟨j0, s0⟩ := jan4_julian y (by omega)
  obtain ⟨jm, sm⟩ := jan4_julian (y - 1) (by omega)
  obtain ⟨jp, sp⟩ := jan4_julian (y + 1) (by omega)
  have b0 := iso_bounds y
  have bp := iso_bounds (y + 1)
  have bm := iso_bounds (y - 1)
  have c0 := iso_succ y
  have cm := iso_succ (y - 1)
  have ee : y - 1 + 1 = y := by omega
  rw [ee] at cm
  unfold Date.dateToIsoYear
  simp only [Date.year, he, UNIX_EPOCH_JULIAN_eq]
  rw [s0]
  generalize dayNumber y m d = n at *
  by_cases c1 : n + 2440588 < isoYearStart y + 2440588
  · simp only [c1, ↓reduceIte, ee]
    rw [sm, s0]
    have n1 : ¬ (isoYearStart (y + 1) ≤ n) := by omega
    have n2 : ¬ (isoYearStart y ≤ n) := by omega
    have n3 : ¬ (n + 2440588 ≥ isoYearStart y + 2440588) := by omega
    simp only [n1, n2, n3, ↓reduceIte, ite_self]
  · simp only [c1, ↓reduceIte]
    rw [s0, sp]
    have n2 : isoYearStart y ≤ n := by omega
    simp only [n2, ↓reduceIte]
    rw [rdiv_nonneg_eq (by omega)]
    by_cases c2 : isoYearStart (y + 1) ≤ n
    · have n3 : (n + 2440588 - (isoYearStart y + 2440588)) / 7 + 1 ≥ 52 := by omega
      have n4 : n + 2440588 ≥ isoYearStart (y + 1) + 2440588 := by omega
      simp only [c2, n3, n4, ↓reduceIte]
    · have n4 : ¬ (n + 2440588 ≥ isoYearStart (y + 1) + 2440588) := by omega
      simp only [c2, n4, ↓reduceIte, ite_self]

/-- 0001-01-01 is a Monday, and ISO year 10000 starts on 10000-01-03. -/
theorem isoYear_range (y m d : Int) (h : ValidYMD y m d) :
    1 ≤ Date.dateToIsoYear (dayNumber y m d) ∧ Date.dateToIsoYear (dayNumber y m d) ≤ 9999 := by
  obtain ⟨he, hr, hy1, hy2, -⟩ := extract_and_bounds h
  rw [dateToIsoYear_eq y m d h]
  have a := iso_one
  have b := iso_10000
  by_cases c9 : y = 9999
  · rw [show y + 1 = 10000 by omega, if_neg (by omega)]; split <;> omega
  · by_cases c1 : y = 1
    · subst c1; rw [if_pos (show isoYearStart 1 ≤ _ by omega)]; split <;> omega
    · split
      · omega
      · split <;> omega

theorem isoTable_eq (Y : Int) (hY : 1 ≤ Y ∧ Y ≤ 9999) :
    Date.applyWeekTable ISO_YEAR_TABLE (Date.dayOfWeek (dayNumber Y 1 1)) (dayNumber Y 1 1) =
      inRangeDay (isoYearStart Y) := by
  have hr := dayNumber_range Y 1 1 ⟨hY.1, hY.2, isDate_first Y 1 (by omega)⟩
  rw [C01.dayOfWeek_eq, applyWeekTable_eq _ _ _ _ hr (weekTables _ (by omega)).2.2.2.2.1]
  unfold isoYearStart nearer7
  simp only []
  rw [dayNumber_jan, dayNumber_jan]
  congr 1
  split <;> omega

theorem trunc_isoYear (y m d : Int) (h : ValidYMD y m d) :
    Date.trunc .isoYear (dayNumber y m d) = inRangeDay (truncOf .isoYear (y, m, d) (dayNumber y m d)) := by
  have hi := isoYear_range y m d h
  simp only [Date.trunc, Date.truncIsoYear, truncOf]
  rw [fromYmd_eq_dayNumber _ 1 1 (by omega) (by omega), isoTable_eq _ hi, dateToIsoYear_eq y m d h]
  congr 1
  split
  · rfl
  · split <;> rfl

theorem round_isoYear (y m d : Int) (h : ValidYMD y m d) :
    Date.round .isoYear (dayNumber y m d) = inRangeDay (roundOf .isoYear (y, m, d) (dayNumber y m d)) := by
  have ht := trunc_isoYear y m d h
  obtain ⟨he, hr, hy1, hy2, hm1, hm2, hd1⟩ := extract_and_bounds h
  simp only [Date.trunc] at ht
  simp only [Date.round, Date.roundIsoYear, he, roundOf, DATE_MAX_YEAR]
  by_cases c : m ≥ 7
  · simp only [c, ↓reduceIte]
    by_cases c2 : y = 9999
    · rw [if_pos c2, show y + 1 = 10000 by omega, iso_10000, inRange_err _ (by omega)]
    · simp only [c2, ↓reduceIte]
      have hv : ValidYMD (y + 1) 1 4 := ⟨by omega, by omega, by decide, by decide, by decide, by
        have := dim_range (y + 1) 1; omega⟩
      have ht' := trunc_isoYear (y + 1) 1 4 hv
      simp only [Date.trunc] at ht'
      rw [fromYmd_eq_dayNumber _ 1 4 (by omega) (by omega), ht']
      congr 1
      simp only [truncOf]
      have s1 := iso_succ (y + 1)
      have j1 := dayNumber_jan (y + 1) 1
      have j4 := dayNumber_jan (y + 1) 4
      have hle : isoYearStart (y + 1) ≤ dayNumber (y + 1) 1 4 := by
        unfold isoYearStart; simp only []; omega
      have b1 := iso_bounds (y + 1)
      rw [if_neg (by omega), if_pos hle]
  · simp only [c, ↓reduceIte]
    exact ht

/-- The roundings test `year = DATE_MAX_YEAR` before moving to the next year: the year gate on `year + 1`. -/
theorem year_gate (y : Int) (hy : y ≤ 9999) (r : Chk Int) :
    (if y = 9999 then .error .DateOutOfRange else r) = if 9999 < y + 1 then .error .DateOutOfRange else r := by
  by_cases c : y = 9999
  · rw [if_pos c, if_pos (by omega)]
  · rw [if_neg c, if_neg (by omega)]

theorem round_year (y m d : Int) (h : ValidYMD y m d) :
    Date.round .year (dayNumber y m d) = inRangeDay (roundOf .year (y, m, d) (dayNumber y m d)) := by
  obtain ⟨he, hr, hy1, hy2, hm1, hm2, hd1⟩ := extract_and_bounds h
  simp only [Date.round, Date.roundYear, he, roundOf, truncOf, nextStartOf, DATE_MAX_YEAR]
  split
  · rw [year_gate y hy2]; exact from_first_gate _ 1 (by omega) (by omega)
  · exact from_first _ 1 (by omega) (by omega)

theorem round_month (y m d : Int) (h : ValidYMD y m d) :
    Date.round .month (dayNumber y m d) = inRangeDay (roundOf .month (y, m, d) (dayNumber y m d)) := by
  obtain ⟨he, hr, hy1, hy2, hm1, hm2, hd1⟩ := extract_and_bounds h
  simp only [Date.round, Date.roundMonth, he, roundOf, truncOf, nextStartOf, DATE_MAX_YEAR, ROUNDS_UP_DAY]
  split
  · split
    · rw [year_gate y hy2]; exact from_first_gate _ 1 (by omega) (by omega)
    · exact from_first _ _ (by omega) (by omega)
  · exact from_first _ _ (by omega) (by omega)

/-- The spec's quarter rounding in the crate's terms: go on `k` = 1 month (2 from the 16th) and take the first month of
    the quarter reached, month 13 being January of the next year. -/
theorem roundOf_quarter (y m d n k : Int) (hm : 1 ≤ m ∧ m ≤ 12) (hk : k = if d ≥ 16 then 2 else 1) :
    roundOf .quarter (y, m, d) n = dayNumber (if m + k > 12 then y + 1 else y) ((m + k - 1) / 3 * 3 % 12 + 1) 1 := by
  have hc : ((m - 1) % 3 = 2 ∨ ((m - 1) % 3 = 1 ∧ d ≥ 16)) ↔ (m - 1) % 3 + k ≥ 3 := by split at hk <;> omega
  have k12 : k = 1 ∨ k = 2 := by split at hk <;> omega
  clear hk
  simp only [roundOf, truncOf, nextStartOf, hc]
  split
  · split <;> (congr 1 <;> omega)
  · congr 1 <;> omega

theorem round_quarter (y m d : Int) (h : ValidYMD y m d) :
    Date.round .quarter (dayNumber y m d) = inRangeDay (roundOf .quarter (y, m, d) (dayNumber y m d)) := by
  obtain ⟨he, hr, hy1, hy2, hm1, hm2, hd1⟩ := extract_and_bounds h
  obtain ⟨-, qt, qr⟩ := quarterTables m ⟨hm1, hm2⟩
  have b2 : m ≥ 11 ↔ 12 < m + 2 := by omega
  have b1 : m = 12 ↔ 12 < m + 1 := by omega
  simp only [Date.round, Date.roundQuarter, he, ROUNDS_UP_DAY, DATE_MAX_YEAR, qt, qr, b1, b2, bind, Except.bind, pure,
    Except.pure, gt_iff_lt]
  split
  · rw [roundOf_quarter y m d _ 2 ⟨hm1, hm2⟩ (by split <;> omega)]
    apply from_first_gate
    · split <;> omega
    · omega
  · rw [roundOf_quarter y m d _ 1 ⟨hm1, hm2⟩ (by split <;> omega)]
    apply from_first_gate
    · split <;> omega
    · omega

theorem round_century (y m d : Int) (h : ValidYMD y m d) (hD1 : y % 100 ≠ 0) :
    Date.round .century (dayNumber y m d) = inRangeDay (roundOf .century (y, m, d) (dayNumber y m d)) := by
  obtain ⟨he, hr, hy1, hy2, hm1, hm2, hd1⟩ := extract_and_bounds h
  simp only [Date.round, Date.roundCentury, Date.year, he, roundOf, truncOf, nextStartOf, DATE_MAX_YEAR]
  rw [rrem_nonneg_eq (by omega), rdiv_nonneg_eq (by omega), if_neg hD1]
  have g : y > 9999 - 49 ↔ 9999 < (y + 49) / 100 * 100 + 1 := by omega
  have e : (if y % 100 > 50 then y / 100 + 1 else y / 100) * 100 + 1 = (y + 49) / 100 * 100 + 1 := by
    split <;> omega
  simp only [g, e]
  rw [from_first_gate _ 1 (by omega) (by omega)]
  split <;> (congr 2; omega)

theorem trunc_day (y m d : Int) (h : ValidYMD y m d) :
    (.ok (dayNumber y m d) : Chk Int) = inRangeDay (dayNumber y m d) :=
  ok_eq_inRange _ (dayNumber_range y m d h)

theorem round_day (y m d : Int) (h : ValidYMD y m d) :
    (.ok (dayNumber y m d) : Chk Int) = inRangeDay (dayNumber y m d) :=
  trunc_day y m d h

end UM

theorem date_trunc_eq (u : TUnit) (y m d : Int) (h : ValidYMD y m d) :
    Date.trunc u (dayNumber y m d) = inRangeDay (truncOf u (y, m, d) (dayNumber y m d)) := by
  cases u
  · exact UM.trunc_century y m d h
  · exact UM.trunc_year y m d h
  · exact UM.trunc_isoYear y m d h
  · exact UM.trunc_quarter y m d h
  · exact UM.trunc_month y m d h
  · exact UM.trunc_week y m d h
  · exact UM.trunc_isoWeek y m d h
  · exact UM.trunc_msw y m d h
  · exact UM.trunc_day y m d h
  · exact UM.trunc_sunday y m d
  · exact UM.trunc_day y m d h
  · exact UM.trunc_day y m d h

/-- Not `century` on years divisible by 100, where the crate deviates (known finding D1, see
    `date_round_century_dev`). -/
theorem date_round_eq (u : TUnit) (y m d : Int) (h : ValidYMD y m d) (hD1 : u = .century → y % 100 ≠ 0) :
    Date.round u (dayNumber y m d) = inRangeDay (roundOf u (y, m, d) (dayNumber y m d)) := by
  cases u
  · exact UM.round_century y m d h (hD1 rfl)
  · exact UM.round_year y m d h
  · exact UM.round_isoYear y m d h
  · exact UM.round_quarter y m d h
  · exact UM.round_month y m d h
  · exact UM.round_week y m d h
  · exact UM.round_isoWeek y m d h
  · exact UM.round_msw y m d h
  · exact UM.round_day y m d h
  · exact UM.round_sunday y m d h
  · exact UM.round_day y m d h
  · exact UM.round_day y m d h

/-- What the crate does on the excluded inputs: a year divisible by 100 is sent to the START of its own century
    (the spec says: to the next one, since year 100 of a century is ≥ 51). -/
theorem date_round_century_dev (y m d : Int) (h : ValidYMD y m d) (hy : y % 100 = 0) :
    Date.round .century (dayNumber y m d) = .ok (dayNumber (y - 99) 1 1) ∧
    roundOf .century (y, m, d) (dayNumber y m d) = dayNumber (y + 1) 1 1 := by
  obtain ⟨he, hr, hy1, hy2, -⟩ := UM.extract_and_bounds h
  constructor
  · simp only [Date.round, Date.roundCentury, Date.year, he, DATE_MAX_YEAR]
    rw [rrem_nonneg_eq (by omega), rdiv_nonneg_eq (by omega), if_neg (by omega), if_pos hy,
      fromYmd_eq_dayNumber _ 1 1 (by omega) (by omega)]
    congr 2; omega
  · simp only [roundOf, nextStartOf]
    rw [if_pos (by omega)]
    congr 1; omega

namespace UM

theorem new_zero : (Timestamp.new · 0) = (· * DAY_US) := funext fun _ => Int.add_zero _

theorem bind_new (c : Chk Int) : (c >>= fun d => pure (Timestamp.new d 0)) = c.map (· * DAY_US) :=
  new_zero ▸ Chk.bind_pure_eq_map c _

theorem inRangeTs_eq (b : Int) : inRangeTs b = Timestamp.tryFromUsecs b := by
  unfold inRangeTs Timestamp.tryFromUsecs MIN_DAY MAX_DAY DAY_US
  by_cases c : isValidTimestamp b
  · rw [if_pos c, if_pos (by rw [isValidTimestamp_iff] at c; omega)]
  · rw [if_neg c, if_neg (fun h => c ((isValidTimestamp_iff b).2 (by omega)))]

theorem inRangeDay_midnight (n : Int) : (inRangeDay n).map (· * DAY_US) = inRangeTs (n * DAY_US) := by
  rw [inRangeDay_eq, inRangeTs_eq, ← new_zero]; exact (Date.tryFromDays_midnight n).trans (congrArg _ (congrFun new_zero n))

end UM

theorem ts_trunc_eq (u : TUnit) (x : Int) (y m d : Int) (h : ValidYMD y m d)
    (hd : dayNumber y m d = x / 86400000000) :
    Timestamp.trunc u x = truncTsOf u (y, m, d) x := by
  rw [Timestamp.trunc_eq, UM.new_zero]
  cases u <;> simp only [truncTsOf, DAY_US, ← hd, date_trunc_eq _ y m d h]

namespace UM

theorem shiftHalfDay_eq (x : Int) (hx : isValidTimestamp x) :
    Timestamp.shiftHalfDay x = inRangeDay ((x + 43200000000) / 86400000000) := by
  have hv := (isValidTimestamp_iff x).1 hx
  rw [Timestamp.shiftHalfDay_eq, Time.hour_eq _ (by omega)]
  split
  · rw [addDays_eq]; congr 1; omega
  · rw [ok_eq_inRange _ (by omega)]; congr 1; omega

theorem inRangeTs_ok (v D : Int) (hD : -719162 ≤ D ∧ D ≤ 2932896)
    (hv : D * 86400000000 ≤ v ∧ v < (D + 1) * 86400000000) : inRangeTs v = .ok v := by
  unfold inRangeTs MIN_DAY MAX_DAY DAY_US
  exact if_pos (by omega)

theorem new_hms (D h mi v : Int) (hD : -719162 ≤ D ∧ D ≤ 2932896) (hh : 0 ≤ h ∧ h < 24) (hm : 0 ≤ mi ∧ mi < 60)
    (hv : v = D * 86400000000 + h * 3600000000 + mi * 60000000) :
    (pure (Timestamp.new D (Time.fromHmsUnchecked h mi 0 0)) : Chk Int) = inRangeTs v := by
  rw [inRangeTs_ok v D hD (by omega), hv]
  simp only [Timestamp.new, Time.fromHmsUnchecked, USECONDS_PER_DAY, USECONDS_PER_HOUR, USECONDS_PER_MINUTE,
    USECONDS_PER_SECOND, pure, Except.pure]
  congr 1; omega

theorem next_midnight (D : Int) :
    (Date.addDays D 1 >>= fun d => pure (Timestamp.new d (Time.fromHmsUnchecked 0 0 0 0))) =
      inRangeTs ((D + 1) * 86400000000) := by
  rw [addDays_eq]; exact (bind_new _).trans (inRangeDay_midnight _)

theorem ts_round_hour (x : Int) (hx : isValidTimestamp x) (ymd : Int × Int × Int) :
    Timestamp.round .hour x = roundTsOf .hour ymd x := by
  have hv := (isValidTimestamp_iff x).1 hx
  have ht : 0 ≤ x % 86400000000 := by omega
  have hD : -719162 ≤ x / 86400000000 ∧ x / 86400000000 ≤ 2932896 := by omega
  have c : x % 86400000000 % 3600000000 / 60000000 ≥ 30 ↔ x - (x - x % 3600000000) ≥ 1800000000 := by omega
  simp only [Timestamp.round, roundTsOf, Timestamp.date_eq, Timestamp.time_eq, Time.extract_eq _ ht, c, apply_ite inRangeTs]
  split
  · split
    · rw [next_midnight]; congr 1; omega
    · exact new_hms _ _ 0 _ hD (by omega) (by omega) (by omega)
  · exact new_hms _ _ 0 _ hD (by omega) (by omega) (by omega)

theorem ts_round_minute (x : Int) (hx : isValidTimestamp x) (ymd : Int × Int × Int) :
    Timestamp.round .minute x = roundTsOf .minute ymd x := by
  have hv := (isValidTimestamp_iff x).1 hx
  have ht : 0 ≤ x % 86400000000 := by omega
  have hD : -719162 ≤ x / 86400000000 ∧ x / 86400000000 ≤ 2932896 := by omega
  have c : x % 86400000000 % 60000000 / 1000000 ≥ 30 ↔ x - (x - x % 60000000) ≥ 30000000 := by omega
  simp only [Timestamp.round, roundTsOf, Timestamp.date_eq, Timestamp.time_eq, Time.extract_eq _ ht, c, apply_ite inRangeTs]
  split
  · split
    · split
      · rw [next_midnight]; congr 1; omega
      · exact new_hms _ _ 0 _ hD (by omega) (by omega) (by omega)
    · exact new_hms _ _ _ _ hD (by omega) (by omega) (by omega)
  · exact new_hms _ _ _ _ hD (by omega) (by omega) (by omega)

end UM

theorem ts_round_deciding (u : TUnit) (hu : u ≠ .hour ∧ u ≠ .minute) (x : Int) (hx : isValidTimestamp x) :
    Timestamp.round u x = (inRangeDay (decidingDay u x)).bind fun n => (Date.round u n).map (· * DAY_US) := by
  have hv := (isValidTimestamp_iff x).1 hx
  have hD : -719162 ≤ x / 86400000000 ∧ x / 86400000000 ≤ 2932896 := by omega
  rw [Timestamp.round_eq u hu, Chk.map_bind, UM.new_zero]
  refine congrArg (· >>= _) ?_
  cases u <;> simp only [decidingDay, DAY_US, UM.shiftHalfDay_eq x hx, ← UM.ok_eq_inRange _ hD]

/-- `ymd` is the calendar date of the deciding day; same exclusion as for dates.  For the units shifted by half a day
    that day may be 10000-01-01, in which case both sides are `DateOutOfRange`: the hypothesis only asks for a real
    date of years 1..10000. -/
theorem ts_round_eq (u : TUnit) (x : Int) (hx : isValidTimestamp x) (y m d : Int)
    (h : IsDate y m d ∧ 1 ≤ y ∧ y ≤ 10000) (hd : dayNumber y m d = decidingDay u x)
    (hD1 : u = .century → y % 100 ≠ 0) :
    Timestamp.round u x = roundTsOf u (y, m, d) x := by
  have date : u ≠ .hour ∧ u ≠ .minute → Timestamp.round u x =
      (inRangeDay (decidingDay u x)).bind fun n => (inRangeDay (roundOf u (y, m, d) n)).map (· * DAY_US) := fun hu => by
    rw [ts_round_deciding u hu x hx, ← hd]
    by_cases c : dayNumber y m d ≤ 2932896
    · have hv : ValidYMD y m d := ⟨h.2.1, (le_max_iff h.1).1 c, h.1⟩
      rw [← UM.ok_eq_inRange _ (dayNumber_range y m d hv)]
      exact congrArg (Except.map _) (date_round_eq u y m d hv hD1)
    · rw [UM.inRange_err _ (by omega)]; rfl
  cases u
  case hour => exact UM.ts_round_hour x hx _
  case minute => exact UM.ts_round_minute x hx _
  all_goals exact date ⟨nofun, nofun⟩

/-! ### Every unit operation returns a range-checked value

What the range rows (C02) and the no-panic rows (C03) need, D1 included: the result is `inRangeDay b` / `inRangeTs b`
for some `b` – a value in range or `DateOutOfRange`, nothing else. -/

theorem dayGate_valid {r : Chk Int} {v : Int} (g : ∃ b, r = inRangeDay b) (h : r = .ok v) : isValidDate v := by
  obtain ⟨b, rfl⟩ := g; rw [UM.inRangeDay_eq] at h; exact Chk.gate_valid h

theorem dayGate_np {r : Chk Int} (g : ∃ b, r = inRangeDay b) : r ≠ .error .Panic := by
  obtain ⟨b, rfl⟩ := g; exact Chk.gate_ne (by decide)

theorem tsGate_valid {r : Chk Int} {v : Int} (g : ∃ b, r = inRangeTs b) (h : r = .ok v) : isValidTimestamp v := by
  obtain ⟨b, rfl⟩ := g; rw [UM.inRangeTs_eq] at h; exact Chk.gate_valid h

theorem tsGate_np {r : Chk Int} (g : ∃ b, r = inRangeTs b) : r ≠ .error .Panic := by
  obtain ⟨b, rfl⟩ := g; exact Chk.gate_ne (by decide)

theorem date_trunc_gate (u : TUnit) (d : Int) (hd : isValidDate d) : ∃ b, Date.trunc u d = inRangeDay b := by
  obtain ⟨y, m, dd, hv, rfl⟩ := date_decompose d hd
  exact ⟨_, date_trunc_eq u y m dd hv⟩

theorem date_round_gate (u : TUnit) (d : Int) (hd : isValidDate d) : ∃ b, Date.round u d = inRangeDay b := by
  obtain ⟨y, m, dd, hv, rfl⟩ := date_decompose d hd
  by_cases hD1 : u = .century → y % 100 ≠ 0
  · exact ⟨_, date_round_eq u y m dd hv hD1⟩
  · obtain ⟨rfl, hy⟩ := Classical.not_imp.1 hD1
    have h1 := hv.1
    have h2 := hv.2.1
    refine ⟨_, (date_round_century_dev y m dd hv (Classical.not_not.1 hy)).1.trans (UM.ok_eq_inRange _ ?_)⟩
    exact dayNumber_range _ 1 1 ⟨by omega, by omega, isDate_first _ 1 (by omega)⟩

theorem ts_trunc_gate (u : TUnit) (x : Int) (hx : isValidTimestamp x) : ∃ b, Timestamp.trunc u x = inRangeTs b := by
  have hv := (isValidTimestamp_iff x).1 hx
  have hD : -719162 ≤ x / 86400000000 ∧ x / 86400000000 ≤ 2932896 := by omega
  rw [Timestamp.trunc_eq, UM.new_zero]
  cases u
  case hour => exact ⟨_, (UM.inRangeTs_ok _ _ hD (by omega)).symm⟩
  case minute => exact ⟨_, (UM.inRangeTs_ok _ _ hD (by omega)).symm⟩
  all_goals
    obtain ⟨b, hb⟩ := date_trunc_gate _ _ ((isValidDate_iff _).2 hD)
    exact ⟨_, (congrArg (Except.map _) hb).trans (UM.inRangeDay_midnight b)⟩

theorem ts_round_gate (u : TUnit) (x : Int) (hx : isValidTimestamp x) : ∃ b, Timestamp.round u x = inRangeTs b := by
  by_cases hu : u ≠ .hour ∧ u ≠ .minute
  · rw [ts_round_deciding u hu x hx]
    cases hn : inRangeDay (decidingDay u x) with
    | error e =>
      refine ⟨decidingDay u x * DAY_US, ?_⟩
      rw [← UM.inRangeDay_midnight, hn]; rfl
    | ok n =>
      obtain ⟨b, hb⟩ := date_round_gate u n (dayGate_valid ⟨_, rfl⟩ hn)
      exact ⟨_, (congrArg (Except.map _) hb).trans (UM.inRangeDay_midnight b)⟩
  · cases u  -- `roundTsOf .hour` and `.minute` ignore the date triple: any will do
    case hour => exact ⟨_, UM.ts_round_hour x hx (0, 0, 0)⟩
    case minute => exact ⟨_, UM.ts_round_minute x hx (0, 0, 0)⟩
    all_goals exact absurd ⟨nofun, nofun⟩ hu

end SqlDt.Lemmas
