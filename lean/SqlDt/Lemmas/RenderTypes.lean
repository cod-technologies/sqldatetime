/-
  Lemmas/RenderTypes: the components of a date, and the answer of the unbounded sink.  `toChk` needs a module of its
  own before Lemmas/RenderCap: Lean names the auxiliary matcher of a `match` after the first declaration of that shape in
  a module, and `formatFields_sink` there must be that declaration.
-/
import SqlDt.Lemmas.Render
import SqlDt.Lemmas.Calendar
namespace SqlDt.Lemmas
open SqlDt Gen Spec

def compsOfDate (y m d : Int) : Comps :=
  { year := y, month := m, day := d, dow0 := weekday (dayNumber y m d), doy := daysBeforeMonth y m + d }

def toChk : Option Bytes → Chk Bytes
  | some t => .ok t
  | none => .error .FormatError

end SqlDt.Lemmas
