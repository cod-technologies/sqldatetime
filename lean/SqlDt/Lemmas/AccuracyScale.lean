/-
  Lemmas/AccuracyScale: `mul_f64` / `div_f64` on intervals, end to end over ℚ.
  Two roundings (conversion of the interval, then product or quotient) compose to a relative error of at most
  `(1+u')² − 1 < 2^-52` (`scale_core`); the cast truncates the computed double toward zero, and the range check is on
  the truncated value (`scaled_gate`).
-/
import SqlDt.Props.C14

namespace SqlDt
namespace Lemmas
open Gen

theorem e52_eq : (2 : ℚ) ^ (-52 : Int) = 1 / 4503599627370496 := by norm_num

/-- `y` is a double-precision image, with sign bit `s'`, of the real `p`: `±∞` only for `(1+u')·|p| ≥ 2^1023` (the
    overflow is that of the last operation, whose operand `fl(v)` may exceed `|v|` by the factor `1+u'`); otherwise
    finite and within relative error `2^-52` of `p`, except that below `2^-1021` (subnormal results) only
    `|y|, |p| < 1` is kept. -/
def Approx (y : F64) (s' : Bool) (p : ℚ) : Prop :=
  (y = .inf s' ∧ (2 : ℚ) ^ (1023 : Int) ≤ (1 + F64.u') * |p|) ∨
  ∃ (m' : Nat) (e' : Int), y = .fin s' m' e' ∧
    ((2 : ℚ) ^ (-1021 : Int) ≤ |p| → |F64.val y - p| ≤ 2 ^ (-52 : Int) * |p|) ∧
    (|F64.val y - p| ≤ 2 ^ (-52 : Int) * |p| ∨ (|F64.val y| < 1 ∧ |p| < 1))

/-- two relative errors `u'` compose to less than `2^-52`: `(1+u')² − 1 = (2u+3u²)/(1+u)² < 2u` -/
theorem compose_two (V a X Y : ℚ) (hV : 0 ≤ V) (hX : 0 ≤ X)
    (h1 : |a - V| ≤ F64.u' * V) (h2 : |Y - a * X| ≤ F64.u' * (a * X)) :
    |Y - V * X| ≤ 2 ^ (-52 : Int) * (V * X) := by
  rw [u'_eq] at h1 h2
  rw [e52_eq]
  rw [abs_le] at *
  have ht : 0 ≤ V * X := mul_nonneg hV hX
  have hx1 := mul_le_mul_of_nonneg_right h1.1 hX
  have hx2 := mul_le_mul_of_nonneg_right h1.2 hX
  constructor <;> linarith only [hx1, hx2, h2.1, h2.2, ht]

theorem tiny_consts : (0 : ℚ) < 2 ^ (-1022 : Int) ∧ (2 : ℚ) ^ (-1021 : Int) = 2 * 2 ^ (-1022 : Int) ∧
    (2 : ℚ) ^ (-1021 : Int) < 1 := by
  refine ⟨two_zpow_pos _, ?_, ?_⟩
  · rw [show (-1021 : Int) = -1022 + 1 by decide, zpow_add_one₀ (by norm_num), mul_comm]
  · have : (2 : ℚ) ^ (-1021 : Int) < 2 ^ (0 : Int) := two_zpow_lt_iff.mpr (by decide)
    rwa [zpow_zero] at this

/-- `y` is the correct rounding of `fl(v)·X` (`X ≥ 0`, sign `s`): then `y` approximates `p = v·(±X)`. -/
theorem scale_core (v : Int) (hv : v.natAbs ≤ 2 ^ 63) (y : F64) (s : Bool) (X : ℚ) (hX : 0 ≤ X)
    (hy : ∀ (m1 : Nat) (e1 : Int), F64.ofInt v = .fin (decide (v < 0)) m1 e1 →
      Rounds y (decide (v < 0) != s) (((m1 : ℚ) * 2 ^ e1) * X)) :
    Approx y (decide (v < 0) != s) ((v : ℚ) * (F64.sgn s * X)) := by
  unfold Approx
  obtain ⟨m1, e1, hA, ha, _⟩ := ofInt_accuracy v hv
  have R := hy m1 e1 hA
  have hvq : (v : ℚ) = F64.sgn (decide (v < 0)) * (v.natAbs : ℚ) := (sgn_decide v).symm
  have hV : (0 : ℚ) ≤ (v.natAbs : ℚ) := by positivity
  generalize (v.natAbs : ℚ) = V at *
  generalize hs1 : decide (v < 0) = s1 at *
  have hp : |(v : ℚ) * (F64.sgn s * X)| = V * X := by
    rw [hvq, abs_mul, abs_sgn_mul, abs_sgn_mul, abs_of_nonneg hV, abs_of_nonneg hX]
  rw [hp]
  generalize (m1 : ℚ) * 2 ^ e1 = a at *
  have ha' := abs_le.mp ha
  have hu : F64.u' = 1 / 9007199254740993 := u'_eq
  have h1 := mul_le_mul_of_nonneg_right ha'.1 hX
  have h2 := mul_le_mul_of_nonneg_right ha'.2 hX
  have hVX : 0 ≤ V * X := mul_nonneg hV hX
  obtain ⟨hT0, hT1, hT2⟩ := tiny_consts
  rcases R with ⟨hinf, hbig⟩ | ⟨m', e', hfin, hc, _, hrel, hexp⟩
  · left; exact ⟨hinf, by linarith only [hbig, h2]⟩
  · right
    refine ⟨m', e', hfin, ?_⟩
    have hvy : |F64.val y| = (m' : ℚ) * 2 ^ e' := by rw [hfin]; exact val_fin_abs _ _ _
    have hdiff : |F64.val y - (v : ℚ) * (F64.sgn s * X)| = |(m' : ℚ) * 2 ^ e' - V * X| := by
      rw [hfin, hvq]
      simp only [F64.val]
      have : F64.sgn (s1 != s) * ((m' : ℚ) * 2 ^ e') - F64.sgn s1 * V * (F64.sgn s * X) =
          F64.sgn s1 * (F64.sgn s * ((m' : ℚ) * 2 ^ e' - V * X)) := by rw [sgn_bne]; ring
      rw [this, abs_sgn_mul, abs_sgn_mul]
    have htiny : a * X < 2 ^ (-1022 : Int) → (m' : ℚ) * 2 ^ e' < 2 ^ (-1021 : Int) :=
      fun hn => fin_lt_of_exp hc.1 (hexp (-1022) (by decide) hn)
    rw [hdiff, hvy]
    generalize (m' : ℚ) * 2 ^ e' = Y at *
    have hclose : (2 : ℚ) ^ (-1022 : Int) ≤ a * X → |Y - V * X| ≤ 2 ^ (-52 : Int) * (V * X) :=
      fun hn => compose_two V a X Y hV hX ha (hrel hn)
    rw [hu] at h1 h2
    constructor
    · intro hbig
      exact hclose (by linarith only [hbig, hT1, h1, hT0])
    · rcases le_or_gt ((2 : ℚ) ^ (-1022 : Int)) (a * X) with hn | hn
      · left; exact hclose hn
      · right
        exact ⟨by linarith only [htiny hn, hT2], by linarith only [hn, h1, hT1, hT2, hVX]⟩

theorem mul_core (v : Int) (hv : v.natAbs ≤ 2 ^ 63) (s : Bool) (m : Nat) (e : Int) :
    Approx (F64.mul (F64.ofInt v) (.fin s m e)) (decide (v < 0) != s) ((v : ℚ) * F64.val (.fin s m e)) :=
  scale_core v hv _ s ((m : ℚ) * 2 ^ e) (mul_nonneg (Nat.cast_nonneg m) (two_zpow_pos e).le)
    (fun m1 e1 h => by rw [h]; exact mul_rounds _ _ _ _ _ _)

theorem div_core (v : Int) (hv : v.natAbs ≤ 2 ^ 63) (s : Bool) (m : Nat) (e : Int) (hm : m ≠ 0) :
    Approx (F64.div (F64.ofInt v) (.fin s m e)) (decide (v < 0) != s) ((v : ℚ) / F64.val (.fin s m e)) := by
  have hq : (v : ℚ) / F64.val (.fin s m e) = (v : ℚ) * (F64.sgn s * ((m : ℚ) * 2 ^ e)⁻¹) := by
    rw [F64.val, div_eq_mul_inv, mul_inv]
    congr 2
    cases s <;> simp [F64.sgn]
  rw [hq]
  exact scale_core v hv _ s (((m : ℚ) * 2 ^ e)⁻¹) (inv_nonneg.mpr (mul_nonneg (Nat.cast_nonneg m) (two_zpow_pos e).le))
    (fun m1 e1 h => by rw [h, ← div_eq_mul_inv]; exact div_rounds _ _ _ _ _ _ hm)

/-- Cast + range gate on top of a numeric core: the outcome is determined by ONE rational `q` within relative error
    `2^-52` of the exact result `p` — `ok (truncQ q)` when that is in range, `IntervalOutOfRange` otherwise — unless
    the double overflowed.  In the normal range `q` is the value of the computed double itself. -/
theorem scaled_gate (lo hi : Int) (valid : Int → Prop) [DecidablePred valid]
    (hg : (∀ t, valid (clamp lo hi t) ↔ valid t) ∧ (∀ t, valid t → clamp lo hi t = t))
    (y : F64) (s' : Bool) (p : ℚ) (hcore : Approx y s' p) :
    ((∃ q : ℚ, |q - p| ≤ 2 ^ (-52 : Int) * |p| ∧
        C14.scaleOutcome lo hi valid y =
          if valid (truncQ q) then .ok (truncQ q) else .error .IntervalOutOfRange) ∨
      (C14.scaleOutcome lo hi valid y = .error .NumericOverflow ∧ (2 : ℚ) ^ (1023 : Int) ≤ (1 + F64.u') * |p|)) ∧
    ((2 : ℚ) ^ (-1021 : Int) ≤ |p| →
      (|F64.val y - p| ≤ 2 ^ (-52 : Int) * |p| ∧
        C14.scaleOutcome lo hi valid y =
          if valid (truncQ (F64.val y)) then .ok (truncQ (F64.val y)) else .error .IntervalOutOfRange) ∨
      (C14.scaleOutcome lo hi valid y = .error .NumericOverflow ∧ (2 : ℚ) ^ (1023 : Int) ≤ (1 + F64.u') * |p|)) := by
  have gate : ∀ t : Int, (if valid (clamp lo hi t) then Except.ok (clamp lo hi t) else .error .IntervalOutOfRange : Chk Int) =
      if valid t then .ok t else .error .IntervalOutOfRange := by
    intro t
    by_cases h : valid t
    · rw [hg.2 t h]
    · rw [if_neg h, if_neg (fun h' => h ((hg.1 t).mp h'))]
  rcases hcore with ⟨hinf, hbig⟩ | ⟨m', e', hfin, hnorm, hcl⟩
  · subst hinf
    exact ⟨Or.inr ⟨rfl, hbig⟩, fun _ => Or.inr ⟨rfl, hbig⟩⟩
  · subst hfin
    have hout : C14.scaleOutcome lo hi valid (.fin s' m' e') =
        if valid (truncQ (F64.val (.fin s' m' e'))) then .ok (truncQ (F64.val (.fin s' m' e')))
        else .error .IntervalOutOfRange := by
      unfold C14.scaleOutcome
      simp only [toIntSat_fin]
      exact gate _
    refine ⟨Or.inl ?_, fun hn => Or.inl ⟨hnorm hn, hout⟩⟩
    rcases hcl with hc | ⟨h1, h2⟩
    · exact ⟨_, hc, hout⟩
    · refine ⟨p, by rw [sub_self, abs_zero]; have := two_zpow_pos (-52); positivity, ?_⟩
      rw [hout, truncQ_small _ h1, truncQ_small _ h2]

/-- a symmetric range strictly inside the range of the cast sees through the saturation -/
theorem gate_clamp (lo hi B : Int) (h1 : lo < -B) (h2 : B < hi) :
    (∀ t, (clamp lo hi t ≤ B ∧ clamp lo hi t ≥ -B) ↔ (t ≤ B ∧ t ≥ -B)) ∧
    (∀ t, (t ≤ B ∧ t ≥ -B) → clamp lo hi t = t) := by
  unfold clamp
  constructor
  · intro t; split
    · omega
    · split <;> omega
  · intro t h; rw [if_neg (by omega), if_neg (by omega)]

theorem dt_gate : (∀ t, IntervalDT.isValidUsecs (clamp I64_MIN I64_MAX t) ↔ IntervalDT.isValidUsecs t) ∧
    (∀ t, IntervalDT.isValidUsecs t → clamp I64_MIN I64_MAX t = t) := by
  unfold IntervalDT.isValidUsecs INTERVAL_MAX_USECONDS
  exact gate_clamp _ _ 8640000000000000000 (by decide) (by decide)

theorem ym_gate : (∀ t, IntervalYM.isValidMonths (clamp I32_MIN I32_MAX t) ↔ IntervalYM.isValidMonths t) ∧
    (∀ t, IntervalYM.isValidMonths t → clamp I32_MIN I32_MAX t = t) := by
  unfold IntervalYM.isValidMonths INTERVAL_MAX_MONTH
  exact gate_clamp _ _ 2136000000 (by decide) (by decide)

end Lemmas
end SqlDt
