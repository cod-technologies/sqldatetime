/-
  Lemmas/ClockFree: the parser consults the clock only through short year fields (Y, YY, YYY) and through the
  year/month defaults applied after the field loop.
-/
import SqlDt.Lemmas.ParseStep
namespace SqlDt.Lemmas
open SqlDt Gen Parser

/-- A field that never asks for the clock while being parsed. -/
def Field.clockFree : Field → Bool
  | .Year n => !(n == 1 || n == 2 || n == 3)
  | _ => true

theorem parseYear_plain (input : Bytes) (n : Nat) (c : Clock) (h : ¬ (n = 1 ∨ n = 2 ∨ n = 3)) :
    parseYear input n c = (parseNumber input n).map fun r => (r.1, r.2.1, r.2.2, false) := by
  unfold parseYear
  rw [if_neg (by omega), if_neg (by omega)]
  cases parseNumber input n <;> rfl

theorem parseYear_clockFree (input : Bytes) (n : Nat) (c1 c2 : Clock) (h : ¬ (n = 1 ∨ n = 2 ∨ n = 3)) :
    parseYear input n c1 = parseYear input n c2 := by
  rw [parseYear_plain input n c1 h, parseYear_plain input n c2 h]

/-- Interval year fields use the 9-digit literal rule whatever the token width. -/
theorem parseField_clockFree (ty : Ty) (c1 c2 : Clock) (st : St) (f : Field)
    (h : Field.clockFree f = true ∨ ty.info.IS_INTERVAL_YM = true) :
    parseField ty c1 st f = parseField ty c2 st f := by
  cases f <;> try rfl
  rename_i n
  unfold parseField
  simp only []
  by_cases hym : ty.info.IS_INTERVAL_YM = true
  · have : ty = .YM := by cases ty <;> simp [Ty.info, INFO_D, INFO_T, INFO_TS, INFO_DT, INFO_OD] at hym ⊢
    subst this
    simp only [Ty.info, INFO_YM, Bool.or_true, ↓reduceIte]
    rw [parseYear_clockFree _ 9 c1 c2 (by omega)]
  · rcases h with h | h
    · have hn : ¬ (n = 1 ∨ n = 2 ∨ n = 3) := by
        simp [Field.clockFree] at h; omega
      simp only [hym, Bool.false_eq_true, ↓reduceIte]
      rw [parseYear_clockFree _ n c1 c2 hn]
    · exact absurd h hym

theorem parseFields_clockFree (ty : Ty) (c1 c2 : Clock) :
    ∀ (fields : List Field) (st : St),
      (∀ f ∈ fields, Field.clockFree f = true ∨ ty.info.IS_INTERVAL_YM = true) →
      parseFields ty c1 st fields = parseFields ty c2 st fields
  | [], _, _ => rfl
  | f :: fs, st, h => by
    unfold parseFields
    rw [parseField_clockFree ty c1 c2 st f (h f (List.mem_cons_self ..))]
    exact congrArg _ (funext fun st' => parseFields_clockFree ty c1 c2 fs st' fun g hg => h g (List.mem_cons_of_mem _ hg))

/-- The result of `parse` carries the number of clock reads, so that is the same too. -/
theorem parse_clock_independent (ty : Ty) (fields : List Field) (input : Bytes) (c1 c2 : Clock)
    (hfree : ∀ f ∈ fields, Field.clockFree f = true ∨ ty.info.IS_INTERVAL_YM = true)
    (hdate : ty.info.HAS_DATE = true →
      (∃ n, Field.Year n ∈ fields) ∧ (Field.Month ∈ fields ∨ ∃ s, Field.MonthName s ∈ fields)) :
    parse ty fields input c1 = parse ty fields input c2 := by
  unfold parse
  rw [parseFields_clockFree ty c1 c2 fields _ hfree]
  cases hp : parseFields ty c2 (initSt ty input) fields with
  | error e => rfl
  | ok st =>
    simp only [bind, Except.bind]
    have hdef : applyDefaults ty st c1 = applyDefaults ty st c2 := by
      unfold applyDefaults
      by_cases hd : ty.info.HAS_DATE = true
      · -- both flags are set, so no default is taken from the clock
        have hs := (parseFields_post (E := fun _ => True) trivial ty c2 fields _ fun _ _ _ => trivial).of_ok hp
        obtain ⟨⟨n, hn⟩, hm⟩ := hdate hd
        have hy' : st.isYearSet = true := by
          rw [hs.yearSet, List.any_eq_true.2 ⟨_, hn, rfl⟩, Bool.or_true]
        have hm' : st.isMonthSet = true := by
          rw [hs.monthSet, Bool.or_eq_true]
          exact Or.inr (hm.elim (fun h => List.any_eq_true.2 ⟨_, h, rfl⟩) fun ⟨s, h⟩ => List.any_eq_true.2 ⟨_, h, rfl⟩)
        simp only [hd, hy', hm', ↓reduceIte]
      · simp only [hd, Bool.false_eq_true, ↓reduceIte]
    rw [hdef]

end SqlDt.Lemmas
