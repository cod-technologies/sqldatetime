/-
  Lemmas/RenderCap: `Formatter::format` into ANY sink (`fmt::Write` with or without a capacity: the 32-byte `StackStr` of the
  serde route, a `String`, a user-supplied writer that can refuse data) is the specified rendering when it fits and a
  format error otherwise – never a panic, never a truncated text reported as success.  The unbounded `String` is the case
  `cap = none`.
-/
import SqlDt.Lemmas.RenderTypes
namespace SqlDt.Lemmas
open SqlDt Gen Spec

-- Trap: `formatFields_sink` and then `toChkCap` stay the first declarations of this module.  Both elaborate to terms over the
-- matcher `formatFields_sink.match_1`, which Lean names after the first declaration with that match shape in a module:
-- moved, or behind another `match` on an `Option Bytes`, they elaborate to different terms.
theorem formatFields_sink (ty : Ty) (v : Int) (dt : NDT) (c : Comps) (h : Agrees ty v dt c) (hfr : FractionOK dt c) :
    ∀ (fields : List Field) (w : Sink), capOk w.cap w.buf.length = true → (∀ f ∈ fields, Field.WellFormed f) →
      Formatter.formatFields ty v dt w fields =
        match renderAll ty c fields with
        | some bs => if capOk w.cap (w.buf.length + bs.length) then .ok { w with buf := w.buf ++ bs } else .error .FormatError
        | none => .error .FormatError := by
  intro fields w hw hwf
  rw [formatFields_outcome ty v dt c h hfr fields w hw hwf]
  cases renderAll ty c fields with
  | none => rfl
  | some bs => exact write_eq w bs

/-- the answer of a bounded sink, given the full rendering -/
def toChkCap (cap : Option Nat) : Option Bytes → Chk Bytes
  | some t => if capOk cap t.length then .ok t else .error .FormatError
  | none => .error .FormatError

theorem toChkCap_none (r : Option Bytes) : toChkCap none r = toChk r := by cases r <;> rfl

theorem outcome_buf (cap : Option Nat) (r : Option Bytes) :
    ((outcome { cap := cap } r).bind fun w => .ok w.buf) = toChkCap cap r := by
  cases r with
  | none => rfl
  | some t => simp only [outcome, write_eq, toChkCap, List.length_nil, Nat.zero_add]; split <;> simp [Except.bind]

theorem format_sink (ty : Ty) (v : Int) (c : Comps) (h : Agrees ty v (NDT.ofValue ty v) c)
    (hfr : FractionOK (NDT.ofValue ty v) c) (hneg : (NDT.ofValue ty v).negative = c.neg)
    (fields : List Field) (hwf : ∀ f ∈ fields, Field.WellFormed f) (cap : Option Nat) :
    Formatter.format ty v fields cap = toChkCap cap (render ty c fields) := by
  obtain ⟨_, _, _, h4, h5⟩ := info_cases ty
  -- whatever is written first, the sign and the fields arrive as one text
  have key : ∀ sign : Bytes,
      ((({ cap := cap } : Sink).write sign).bind fun w =>
        (Formatter.formatFields ty v (NDT.ofValue ty v) w fields).bind fun w => .ok w.buf) =
      toChkCap cap ((renderAll ty c fields).bind fun body => some (sign ++ body)) := fun sign =>
    calc _ = ((({ cap := cap } : Sink).write sign).bind fun w => (outcome w (renderAll ty c fields)).bind fun w => .ok w.buf) :=
            bind_write_congr _ sign fun w hw => by rw [formatFields_outcome ty v _ c h hfr fields w hw hwf]
      _ = (((({ cap := cap } : Sink).write sign).bind fun w => outcome w (renderAll ty c fields)).bind fun w => .ok w.buf) := by
            cases ({ cap := cap } : Sink).write sign <;> rfl
      _ = _ := by rw [outcome_append, outcome_buf]
  unfold Formatter.format render
  simp only [hneg, h4, h5]
  by_cases hn : c.neg = true
  · simp only [hn, ↓reduceIte]; exact key [45]
  · by_cases hi : ty = .YM ∨ ty = .DT
    · simp only [hn, hi, Bool.false_eq_true, ↓reduceIte, Bool.or_eq_true, decide_eq_true_eq]; exact key [43]
    · simp only [hn, hi, Bool.false_eq_true, ↓reduceIte, Bool.or_eq_true, decide_eq_true_eq]
      have k := key []
      rw [write_nil _ (by cases cap <;> rfl)] at k
      exact k

theorem format_eq_render (ty : Ty) (v : Int) (c : Comps) (h : Agrees ty v (NDT.ofValue ty v) c)
    (hfr : FractionOK (NDT.ofValue ty v) c) (hneg : (NDT.ofValue ty v).negative = c.neg)
    (fields : List Field) (hwf : ∀ f ∈ fields, Field.WellFormed f) :
    Formatter.format ty v fields none = toChk (render ty c fields) := by
  rw [format_sink ty v c h hfr hneg fields hwf none, toChkCap_none]

theorem format_sink_rel (ty : Ty) (v : Int) (c : Comps) (h : Agrees ty v (NDT.ofValue ty v) c)
    (hfr : FractionOK (NDT.ofValue ty v) c) (hneg : (NDT.ofValue ty v).negative = c.neg)
    (fields : List Field) (hwf : ∀ f ∈ fields, Field.WellFormed f) (n : Nat) :
    Formatter.format ty v fields (some n) =
      match Formatter.format ty v fields none with
      | .ok t => if t.length ≤ n then .ok t else .error .FormatError
      | .error e => .error e := by
  rw [format_sink ty v c h hfr hneg fields hwf (some n), format_sink ty v c h hfr hneg fields hwf none]
  cases render ty c fields with
  | none => rfl
  | some t => simp [toChkCap, capOk]

end SqlDt.Lemmas
