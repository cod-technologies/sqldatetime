/-
  Lemmas/ReadingDoy: the day of the year.  `Spec.monthOfOrdinal` is `Cal.monthsBefore` of Lemmas/Calendar written out
  (Calendar does not import Spec/Reading): the crate's decoding (`the_month_day_of_days`, a binary search in the
  cumulative month table) computes it, and the ordinal of a date leads back to its month.  `resolveDoy` is `monthDayOf`.
-/
import SqlDt.Lemmas.Calendar
import SqlDt.Spec.Reading
import SqlDt.Model.Parse
namespace SqlDt.Lemmas
open SqlDt Gen Spec Parser

theorem theMonthDayOfDays_spec (y n : Int) (h1 : 1 ≤ n) :
    theMonthDayOfDays n (isLeap y) = .ok (monthOfOrdinal y n, n - daysBeforeMonth y (monthOfOrdinal y n)) :=
  Cal.theMonthDayOfDays_eq y n h1

theorem monthOfOrdinal_eq (y n m : Int) (hm : 1 ≤ m ∧ m ≤ 12) (h1 : daysBeforeMonth y m < n)
    (h2 : n ≤ daysBeforeMonth y m + dim y m) : monthOfOrdinal y n = m :=
  Cal.monthsBefore_eq y n m hm h1 h2

theorem ordinal_spec (y m d : Int) (h : IsDate y m d) :
    monthOfOrdinal y (daysBeforeMonth y m + d) = m ∧
    daysBeforeMonth y m + d ≤ (if isLeap y then 366 else 365) := by
  obtain ⟨m1, m12, d1, dd⟩ := h
  refine ⟨monthOfOrdinal_eq y _ m ⟨m1, m12⟩ (by omega) (by omega), ?_⟩
  have := Cal.dbm_dim_le y m ⟨m1, m12⟩
  unfold Cal.leapI at this
  split at this <;> simp_all <;> omega

/-- `resolveDoy` on a state whose flags and date fields come from the components `p`. -/
theorem resolveDoy_spec (st : St) (dt : NDT) (p : Parts) (now : Clock)
    (hdoy : st.doy = p.doy.map Int.ofNat) (hms : st.isMonthSet = p.month.isSome) (hds : st.isDaySet = p.day.isSome)
    (hm : dt.month = (p.month.map Int.ofNat).getD now.month) (hd : dt.day = ((p.day.getD 1 : Nat) : Int)) :
    resolveDoy st dt =
      match monthDayOf p now dt.year with
      | some (m, d) => .ok { dt with month := m, day := d }
      | none => .error .ParseError := by
  unfold resolveDoy monthDayOf
  rw [hdoy]
  cases hn : p.doy with
  | none =>
    simp only [Option.map_none, pure, Except.pure]
    rw [← hm, ← hd]
  | some n =>
    simp only [Option.map_some, Int.ofNat_eq_natCast]
    rw [isLeapYear_eq]
    by_cases hr : 1 ≤ n ∧ n ≤ (if isLeap dt.year = true then 366 else 365)
    · have hno : ¬ ((n : Int) = 0 ∨ (¬ isLeap dt.year = true ∧ (n : Int) > 365) ∨ (isLeap dt.year = true ∧ (n : Int) > 366)) := by
        have := hr.2
        cases hl : isLeap dt.year <;> simp [hl] at this ⊢ <;> omega
      rw [if_neg hno, theMonthDayOfDays_spec dt.year n (by omega)]
      simp only [hr, bind, Except.bind, hms, hds, perr, pure, Except.pure]
      generalize monthOfOrdinal dt.year ↑n = M
      generalize (n : Int) - daysBeforeMonth dt.year M = D
      -- the crate compares a written month / day with the decoded one and fills in what was not written
      cases hpm : p.month <;> cases hpd : p.day <;>
        simp only [hpm, hpd, Option.map_some, Option.map_none, Option.getD_some, Option.getD_none,
          Int.ofNat_eq_natCast] at hm hd <;>
        simp only [Option.isSome_none, Option.isSome_some, Option.all_none, Option.all_some, decide_eq_true_eq, true_and,
          and_true, and_self, ↓reduceIte, ne_eq]
      · rfl
      · rw [← hd]; by_cases h : D = dt.day <;> simp [h, eq_comm]
      · rw [← hm]; by_cases h : M = dt.month <;> simp [h, eq_comm]
      · rw [← hm, ← hd]; by_cases h : M = dt.month ∧ D = dt.day <;> simp [h, eq_comm]
    · have hyes : ((n : Int) = 0 ∨ (¬ isLeap dt.year = true ∧ (n : Int) > 365) ∨ (isLeap dt.year = true ∧ (n : Int) > 366)) := by
        cases hl : isLeap dt.year <;> simp [hl] at hr ⊢ <;> omega
      rw [if_pos hyes]
      simp only [hr, not_false_eq_true, ↓reduceIte, perr]

end SqlDt.Lemmas
