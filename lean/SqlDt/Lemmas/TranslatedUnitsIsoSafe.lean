/-
  Lemmas/TranslatedUnitsIsoSafe (hand-written, stable): the safety predicates `Tr.f_safe` of the
  ISO-year units proved in Lemmas/TranslatedUnitsIso.  Same namespace (`SqlDt.TrSafe`) and attribute (`tr_safe`) as
  Lemmas/TranslatedSafe.  The calendar facts (the ISO year of a valid date is a year 1..9999; the unit results are valid
  dates) are in Lemmas/TranslatedFacts; the `Timestamp` / `oracle::Date` wrappers go as in Lemmas/TranslatedUnitsTsSafe.
-/
import SqlDt.Lemmas.TranslatedUnitsTsSafe
import SqlDt.Lemmas.TranslatedUnitsIso
namespace SqlDt.TrSafe
open SqlDt SqlDt.Gen SqlDt.TrTactic SqlDt.TrEq SqlDt.TrEq.IsoU SqlDt.TrEq.TsU SqlDt.TrSafe.TsU SqlDt.TrSafe.IsoU

@[tr_safe] theorem week_day_of_julian_safe (j : Int) (hj : fitsI32 j) : Tr.week_day_of_julian_safe j := by
  unfold Tr.week_day_of_julian_safe
  tr_safe_auto

@[tr_safe] theorem Date.date_to_iso_year_safe (d : Int) (hd : isValidDate d) : Tr.Date.date_to_iso_year_safe d := by
  unfold Tr.Date.date_to_iso_year_safe
  have hx := extract_valid d hd
  have hr := valid_date_range' d hd
  have hv := (isValidDate_iff d).1 hd
  have j0 := jan4_bounds (Date.extract d).1 (by omega)
  have jm := jan4_bounds ((Date.extract d).1 - 1) (by omega)
  have jp := jan4_bounds ((Date.extract d).1 + 1) (by omega)
  have w0 := weekDayOfJulian_range (date2julian (Date.extract d).1 1 4)
  have wm := weekDayOfJulian_range (date2julian ((Date.extract d).1 - 1) 1 4)
  have wp := weekDayOfJulian_range (date2julian ((Date.extract d).1 + 1) 1 4)
  try simp (disch := tr_sdisch) only [tr_eq, tr_safe]
  -- decide the first statement `if` once for the whole predicate (it selects the triple `(year, fourth, offset)`
  -- that every later conjunct projects from), then the conjuncts are linear arithmetic over the six atoms above
  first
  | done
  | (split <;> (try simp only [Int.sub_add_cancel]) <;> tr_safe_auto)
  | tr_safe_auto

@[tr_safe] theorem Date.trunc_iso_year_safe (d : Int) (hd : isValidDate d) : Tr.Date.trunc_iso_year_safe d := by
  unfold Tr.Date.trunc_iso_year_safe
  have hr := valid_date_range' d hd
  have hi := dateToIsoYear_range d hd
  have hf := isoYear_first_valid d hd
  have hw := dayOfWeek_range (Date.fromYmdUnchecked (Date.dateToIsoYear d) 1 1)
  have ht := isoYearTable_fits (Date.dayOfWeek (Date.fromYmdUnchecked (Date.dateToIsoYear d) 1 1))
  try simp (disch := tr_sdisch) only [tr_eq, tr_safe, true_and, and_true, implies_true]
  first
  | done
  | omega
  | (generalize Date.fromYmdUnchecked (Date.dateToIsoYear d) 1 1 = f at *
     tr_dow_cases f)

@[tr_safe] theorem Date.round_iso_year_safe (d : Int) (hd : isValidDate d) : Tr.Date.round_iso_year_safe d := by
  unfold Tr.Date.round_iso_year_safe
  -- as a range, so that `omega` gets it from the path condition `year ≠ DATE_MAX_YEAR` where `trunc_iso_year` asks for it
  have hj := fun hy => (isValidDate_iff _).1 (next_jan4_valid d hd hy)
  tr_sdate d hd
  tr_safe_auto

@[tr_safe] theorem Timestamp.trunc_iso_year_safe (ts : Int) (hts : isValidTimestamp ts) :
    Tr.Timestamp.trunc_iso_year_safe ts := by
  unfold Tr.Timestamp.trunc_iso_year_safe
  tr_ts_safe ts hts

@[tr_safe] theorem Timestamp.round_iso_year_safe (ts : Int) (hts : isValidTimestamp ts) :
    Tr.Timestamp.round_iso_year_safe ts := by
  unfold Tr.Timestamp.round_iso_year_safe
  tr_ts_safe ts hts

@[tr_safe] theorem OracleDate.trunc_iso_year_safe (od : Int) (hod : OracleDate.isValidDate od) :
    Tr.OracleDate.trunc_iso_year_safe od := by
  unfold Tr.OracleDate.trunc_iso_year_safe
  tr_ts_safe od hod.1

@[tr_safe] theorem OracleDate.round_iso_year_safe (od : Int) (hod : OracleDate.isValidDate od) :
    Tr.OracleDate.round_iso_year_safe od := by
  unfold Tr.OracleDate.round_iso_year_safe
  tr_ts_safe od hod.1

end SqlDt.TrSafe
