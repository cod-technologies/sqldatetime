/-
  Lemmas/FloatValue: the soft-float (Model/F64) seen through exact rational arithmetic.
  `F64.val x` is the rational value `±m·2^e` of a finite double, `truncQ` truncates a rational toward zero,
  `roundHalfAwayQ` is the nearest integer with ties away from zero.  In these terms the saturating cast is
  `clamp lo hi (truncQ (val x))` (`toIntSat_fin`) and `f64::round` converts `roundHalfAwayQ (val x)` (`roundHalfAway_fin`).
-/
import Mathlib.Tactic.NormNum
import Mathlib.Tactic.FieldSimp
import Mathlib.Data.Rat.Floor
import SqlDt.Lemmas.FloatRound

namespace SqlDt

/-- `-1` for a set sign bit, `+1` otherwise. -/
def F64.sgn (b : Bool) : ℚ := if b then -1 else 1

/-- The rational value of a double: `±m·2^e` for a finite one, `0` for NaN and the infinities. -/
def F64.val : F64 → ℚ
  | .nan => 0
  | .inf _ => 0
  | .fin s m e => F64.sgn s * ((m : ℚ) * 2 ^ e)

def truncQ (q : ℚ) : Int := if 0 ≤ q then ⌊q⌋ else -⌊-q⌋

def roundHalfAwayQ (q : ℚ) : Int := if 0 ≤ q then ⌊q + 1 / 2⌋ else -⌊-q + 1 / 2⌋

def clamp (lo hi t : Int) : Int := if t < lo then lo else if t > hi then hi else t

namespace Lemmas

theorem sgn_mul_self (s : Bool) : F64.sgn s * F64.sgn s = 1 := by cases s <;> simp [F64.sgn]

theorem sgn_bne (s t : Bool) : F64.sgn (s != t) = F64.sgn s * F64.sgn t := by
  cases s <;> cases t <;> simp [F64.sgn]

theorem sgn_decide (v : Int) : F64.sgn (decide (v < 0)) * (v.natAbs : ℚ) = (v : ℚ) := by
  rw [Nat.cast_natAbs, Int.cast_abs]
  by_cases h : v < 0
  · rw [decide_eq_true h, abs_of_neg (by exact_mod_cast h)]; simp [F64.sgn]
  · rw [decide_eq_false h, abs_of_nonneg (by exact_mod_cast (by omega : 0 ≤ v))]; simp [F64.sgn]

theorem abs_sgn_mul (s : Bool) (x : ℚ) : |F64.sgn s * x| = |x| := by cases s <;> simp [F64.sgn]

theorem val_fin_abs (s : Bool) (m : Nat) (e : Int) : |F64.val (.fin s m e)| = (m : ℚ) * 2 ^ e := by
  unfold F64.val
  rw [abs_sgn_mul, abs_of_nonneg]
  have := two_zpow_pos e
  positivity

theorem truncQ_neg (q : ℚ) : truncQ (-q) = -truncQ q := by
  unfold truncQ
  rcases lt_trichotomy q 0 with h | h | h
  · rw [if_pos (by linarith), if_neg (by linarith)]; simp
  · subst h; simp
  · rw [if_neg (by linarith), if_pos (by linarith)]; simp

theorem roundHalfAwayQ_neg (q : ℚ) : roundHalfAwayQ (-q) = -roundHalfAwayQ q := by
  unfold roundHalfAwayQ
  rcases lt_trichotomy q 0 with h | h | h
  · rw [if_pos (by linarith), if_neg (by linarith)]; simp
  · subst h; norm_num
  · rw [if_neg (by linarith), if_pos (by linarith)]; simp

theorem truncQ_sgn (s : Bool) (q : ℚ) : truncQ (F64.sgn s * q) = if s then -truncQ q else truncQ q := by
  cases s
  · simp [F64.sgn]
  · simp only [F64.sgn, if_true]; rw [neg_one_mul, truncQ_neg]

theorem roundHalfAwayQ_sgn (s : Bool) (q : ℚ) :
    roundHalfAwayQ (F64.sgn s * q) = if s then -roundHalfAwayQ q else roundHalfAwayQ q := by
  cases s
  · simp [F64.sgn]
  · simp only [F64.sgn, if_true]; rw [neg_one_mul, roundHalfAwayQ_neg]

theorem truncQ_natCast (n : Nat) : truncQ (n : ℚ) = n := by
  unfold truncQ; rw [if_pos (by positivity)]; exact Int.floor_natCast n

theorem truncQ_intCast (n : Int) : truncQ (n : ℚ) = n := by
  rcases le_total 0 n with h | h
  · unfold truncQ; rw [if_pos (by exact_mod_cast h)]; exact Int.floor_intCast n
  · have : (n : ℚ) = -((-n : Int) : ℚ) := by push_cast; ring
    rw [this, truncQ_neg]
    unfold truncQ; rw [if_pos (by exact_mod_cast (by omega : 0 ≤ -n)), Int.floor_intCast]; omega

theorem roundHalfAwayQ_intCast (n : Int) : roundHalfAwayQ (n : ℚ) = n := by
  have key : ∀ k : Int, 0 ≤ k → roundHalfAwayQ (k : ℚ) = k := by
    intro k hk
    unfold roundHalfAwayQ; rw [if_pos (by exact_mod_cast hk), Int.floor_eq_iff]
    constructor <;> linarith
  rcases le_total 0 n with h | h
  · exact key n h
  · have : (n : ℚ) = -((-n : Int) : ℚ) := by push_cast; ring
    rw [this, roundHalfAwayQ_neg, key (-n) (by omega)]; omega

theorem truncQ_small (q : ℚ) (h : |q| < 1) : truncQ q = 0 := by
  rw [abs_lt] at h
  unfold truncQ
  split
  · rw [Int.floor_eq_iff]; constructor <;> push_cast <;> linarith
  · rw [neg_eq_zero, Int.floor_eq_iff]; constructor <;> push_cast <;> linarith

theorem roundHalfAwayQ_small (q : ℚ) (h : |q| < 1 / 2) : roundHalfAwayQ q = 0 := by
  rw [abs_lt] at h
  unfold roundHalfAwayQ
  split
  · rw [Int.floor_eq_iff]; constructor <;> push_cast <;> linarith
  · rw [neg_eq_zero, Int.floor_eq_iff]; constructor <;> push_cast <;> linarith

theorem truncQ_abs (q : ℚ) : ((|truncQ q| : Int) : ℚ) ≤ |q| ∧ |q| < ((|truncQ q| : Int) : ℚ) + 1 := by
  have key : ∀ x : ℚ, 0 ≤ x → ((|truncQ x| : Int) : ℚ) ≤ |x| ∧ |x| < ((|truncQ x| : Int) : ℚ) + 1 := by
    intro x hx
    unfold truncQ; rw [if_pos hx, abs_of_nonneg hx, abs_of_nonneg (Int.floor_nonneg.mpr hx)]
    exact ⟨Int.floor_le x, Int.lt_floor_add_one x⟩
  rcases le_total 0 q with h | h
  · exact key q h
  · have := key (-q) (by linarith)
    rwa [truncQ_neg, abs_neg, abs_neg] at this

theorem roundHalfAwayQ_err (q : ℚ) : |((roundHalfAwayQ q : Int) : ℚ) - q| ≤ 1 / 2 := by
  have key : ∀ x : ℚ, 0 ≤ x → |((roundHalfAwayQ x : Int) : ℚ) - x| ≤ 1 / 2 := by
    intro x hx
    unfold roundHalfAwayQ; rw [if_pos hx, abs_le]
    have h1 := Int.floor_le (x + 1 / 2)
    have h2 := Int.lt_floor_add_one (x + 1 / 2)
    constructor <;> linarith
  rcases le_total 0 q with h | h
  · exact key q h
  · have := key (-q) (by linarith)
    rw [roundHalfAwayQ_neg] at this
    rw [← abs_neg]; convert this using 2; push_cast; ring

theorem roundHalfAwayQ_bounds {q : ℚ} {N : Int} (h0 : 0 ≤ q) (hq : q < N) :
    0 ≤ roundHalfAwayQ q ∧ roundHalfAwayQ q ≤ N := by
  unfold roundHalfAwayQ
  rw [if_pos h0]
  exact ⟨Int.floor_nonneg.2 (by linarith), Int.floor_le_iff.2 (by linarith)⟩

theorem floor_mag (m : Nat) (e : Int) :
    ⌊(m : ℚ) * 2 ^ e⌋ = ((if e ≥ 0 then m * F64.pow2 e.toNat else m / F64.pow2 (-e).toNat : Nat) : Int) := by
  simp only [pow2_eq]
  by_cases he : e ≥ 0
  · rw [if_pos he]
    have h0 : (-e).toNat = 0 := by omega
    rw [zpow_split, h0, pow_zero, div_one]
    have : (m : ℚ) * 2 ^ e.toNat = ((m * 2 ^ e.toNat : Nat) : ℚ) := by push_cast; ring
    rw [this, Int.floor_natCast]
  · rw [if_neg he]
    have h0 : e.toNat = 0 := by omega
    rw [zpow_split, h0, pow_zero]
    have : (m : ℚ) * (1 / 2 ^ (-e).toNat) = ((m : Int) : ℚ) / ((2 ^ (-e).toNat : Nat) : ℚ) := by push_cast; ring
    rw [this, Rat.floor_intCast_div_natCast]
    push_cast; rfl

theorem truncInt_eq (s : Bool) (m : Nat) (e : Int) : F64.truncInt s m e = truncQ (F64.val (.fin s m e)) := by
  unfold F64.truncInt F64.val
  rw [truncQ_sgn]
  have hnn : (0 : ℚ) ≤ (m : ℚ) * 2 ^ e := by have := two_zpow_pos e; positivity
  have : truncQ ((m : ℚ) * 2 ^ e) = ⌊(m : ℚ) * 2 ^ e⌋ := by unfold truncQ; rw [if_pos hnn]
  rw [this, floor_mag]
  simp only [Int.ofNat_eq_natCast]

/-- `x as iN` for a finite double (the crate uses `lo ≤ 0 ≤ hi`; not needed here). -/
theorem toIntSat_fin (lo hi : Int) (s : Bool) (m : Nat) (e : Int) :
    F64.toIntSat lo hi (.fin s m e) = clamp lo hi (truncQ (F64.val (.fin s m e))) := by
  unfold F64.toIntSat clamp
  simp only [truncInt_eq]

theorem toI64_fin (s : Bool) (m : Nat) (e : Int) :
    F64.toI64 (.fin s m e) = clamp I64_MIN I64_MAX (truncQ (F64.val (.fin s m e))) := toIntSat_fin _ _ s m e

theorem toI32_fin (s : Bool) (m : Nat) (e : Int) :
    F64.toI32 (.fin s m e) = clamp I32_MIN I32_MAX (truncQ (F64.val (.fin s m e))) := toIntSat_fin _ _ s m e

theorem half_up_div (m d : Nat) (hd : 0 < d) :
    (if 2 * (m % d) ≥ d then m / d + 1 else m / d) = (2 * m + d) / (2 * d) := by
  have h1 := Nat.div_add_mod m d
  have h2 := Nat.mod_lt m hd
  generalize m / d = q at *
  generalize m % d = r at *
  subst h1
  have e : 2 * (d * q + r) + d = 2 * d * q + (2 * r + d) := by ring
  rw [e, Nat.mul_add_div (by omega)]
  split
  · rw [Nat.div_eq_of_lt_le (k := 1) (by omega) (by omega)]
  · rw [Nat.div_eq_of_lt (by omega)]; rfl

theorem floor_half_up (m d : Nat) (hd : 0 < d) :
    ⌊(m : ℚ) / d + 1 / 2⌋ = ((if 2 * (m % d) ≥ d then m / d + 1 else m / d : Nat) : Int) := by
  have hD : (d : ℚ) ≠ 0 := by exact_mod_cast hd.ne'
  have : (m : ℚ) / d + 1 / 2 = (((2 * m + d : Nat) : Int) : ℚ) / ((2 * d : Nat) : ℚ) := by
    push_cast
    rw [div_add_div _ _ hD (by norm_num), div_eq_div_iff (by positivity) (by positivity)]; ring
  rw [this, Rat.floor_intCast_div_natCast, half_up_div m d hd]
  norm_cast

/-- `f64::round` on a double with fractional bits -/
theorem roundHalfAway_fin (s : Bool) (m : Nat) {e : Int} (he : e < 0) :
    F64.roundHalfAway (.fin s m e) = F64.round s (roundHalfAwayQ ((m : ℚ) * 2 ^ e)).toNat 1 := by
  have h0 : e.toNat = 0 := by omega
  have hX : (m : ℚ) * 2 ^ e = (m : ℚ) / ((2 ^ (-e).toNat : Nat) : ℚ) := by
    rw [zpow_split, h0, pow_zero]; push_cast; ring
  have hq : roundHalfAwayQ ((m : ℚ) * 2 ^ e) = ((if 2 * (m % 2 ^ (-e).toNat) ≥ 2 ^ (-e).toNat
      then m / 2 ^ (-e).toNat + 1 else m / 2 ^ (-e).toNat : Nat) : Int) := by
    unfold roundHalfAwayQ
    rw [hX, if_pos (by positivity), floor_half_up m _ (by positivity)]
  have hne : ¬ e ≥ 0 := by omega
  unfold F64.roundHalfAway
  simp only [hne, ↓reduceIte, pow2_eq]
  rw [hq, Int.toNat_natCast]

end Lemmas
end SqlDt
